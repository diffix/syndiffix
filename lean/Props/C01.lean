import SdxProofs.BuildTable
import Props.C18
import Props.C10
import SdxProofs.SubsFrom
import Props.C11
import SdxProofs.CellOrigin
import SdxModel.Sample
import SdxModel.Convert
import SdxProofs.Materialize
import SdxProofs.InForest
set_option linter.unusedSectionVars false
/-!
# C01 — Suppression floor: nothing is released from fewer than `low_threshold` entities

The floor is assembled from: (i) a node passes the low-count filter only with at least `low_threshold`
distinct non-null entities in every id column (`C02_floor`, `C02_saturating_counter_floor`, here re-stated for
nodes); (ii) a leaf is harvested only if it passes the filter; (iii) a node is subdivided only if it passes the
filter (`C18_split_conditions`), and entity sets only grow; (iv) verbatim strings are released only for
values marked safe, and a value is marked safe only for a singular 1-dim leaf that passes the filter.
The provenance of every bucket of a whole harvest, *refined* buckets included (their ranges are ranges of already
harvested lower-dimensional buckets or of the refined node itself), is `C01_bucket_ranges_in_forest`; the oracle also
checks each released range of every real bucket against the distinct entities whose own values fall inside it.
-/

section
variable {α : Type} [Field α] [LinearOrder α] [IsStrictOrderedRing α] [FloorRing α] [Inhabited α]

/-- (ii)  a leaf that does not pass the low-count filter contributes no bucket at all. -/
theorem C01_leaf_suppressed (E : Env α) (c : FCtx α) (fuel : Nat) (n : Node α) (s : HState α)
    (h : n.overThreshold E c c.ap.supp.lt = false) : (harvestLeaf E c fuel n).run s = .ok ([], s) := by
  unfold harvestLeaf
  simp [h, pure, StateT.pure, Except.pure, StateT.run]

/-- (i)  explicit ids: passing the filter at `low_threshold` needs that many distinct entities in every id column. -/
theorem C01_floor_generic (E : Env α) (c : FCtx α) (n : Node α) (cap dims : Nat) (rows : List (List UInt64))
    (hrows : ∀ r ∈ rows, r.length = dims)
    (hcounter : n.data.counter = (CounterKind.generic dims cap).newEntity.addMany rows)
    (hcap : c.ap.supp.lt ≤ (cap : Int)) (h : n.overThreshold E c c.ap.supp.lt = true) :
    ∀ d < dims, c.ap.supp.lt ≤ ((entitySet (idColumn rows d)).card : Int) :=
  C18_over_threshold_entities_generic E c n _ cap dims rows hrows hcounter hcap h

/-- (i)  implicit row ids: at least `low_threshold` rows. -/
theorem C01_floor_unique (E : Env α) (c : FCtx α) (n : Node α) (cnt : Nat) (seed : UInt64)
    (hcounter : n.data.counter = .unique cnt seed) (h : n.overThreshold E c c.ap.supp.lt = true) :
    c.ap.supp.lt ≤ (cnt : Int) :=
  C18_over_threshold_entities_unique E c n _ cnt seed hcounter h

/-- (iv)  a value is marked safe only for a singular leaf of the 1-dim tree that passes the filter — for every tree. -/
theorem C01_safe_values_backed (E : Env α) (c : FCtx α) (fuel : Nat) (t : Node α) (v : Nat)
    (h : v ∈ analyzeTree E c fuel t) :
    ∃ leaf ∈ t.leaves fuel, leaf.isSing = true ∧ leaf.overThreshold E c c.ap.supp.lt = true ∧
      v = (ScalarOps.trunc ((leaf.data.actual.getD 0 default).lo)).toNat := by
  induction fuel generalizing t with
  | zero => simp [analyzeTree] at h
  | succ f ih =>
    cases t with
    | leaf d subs rows =>
      simp only [analyzeTree] at h
      split_ifs at h with hc
      · simp only [List.mem_singleton] at h
        simp only [Bool.and_eq_true] at hc
        exact ⟨.leaf d subs rows, by simp [Node.leaves], hc.1, hc.2, by simpa [Node.data] using h⟩
      · simp at h
    | branch d subs ch =>
      simp only [analyzeTree, List.mem_flatten, List.mem_map] at h
      obtain ⟨l, ⟨p, hp, rfl⟩, hv⟩ := h
      obtain ⟨leaf, hl, h1, h2, h3⟩ := ih p.2 hv
      refine ⟨leaf, ?_, h1, h2, h3⟩
      simp only [Node.leaves, List.mem_flatten, List.mem_map]
      exact ⟨_, ⟨p, hp, rfl⟩, hl⟩

/-- (iv)  a string drawn from a range is released verbatim only if its index is marked safe; otherwise the
output is a mask `prefix*index`. -/
theorem C01_verbatim_only_safe (valueMap : List String) (safe : List Nat) (iv : Ival α) (s s' : List (Draw α))
    (cell : Cell α) (f : α) (h : (mapStringInterval valueMap safe iv).run s = .ok ((cell, f), s')) :
    (∃ v ∈ safe, ∃ str, valueMap[v]? = some str ∧ cell = .str str) ∨
    (∃ pre v, cell = .str (pre ++ "*" ++ toString (v : Nat))) := by
  obtain ⟨v, _, _, _, hc⟩ := C11_string_result valueMap safe iv s s' cell f h
  rcases hc with ⟨hs, str, h1, h2⟩ | ⟨_, a, b, _, _, h3⟩
  · exact Or.inl ⟨v, hs, str, h1, h2⟩
  · exact Or.inr ⟨_, v, h3⟩

/-! ## Whole harvests: every released range, refined buckets included -/

/-- C01, ranges of every bucket of every harvest: each range released for a column — leaf buckets, branch buckets
and buckets assembled by refinement alike — is the released range, for that column, of a node of a forest tree that
is a branch or a filter-passing leaf; and that node belongs to a tree satisfying the invariant. -/
theorem C01_bucket_ranges_in_forest [Inhabited α] (E : Env α) (inp : ForestIn α) (F : Forest α)
    (hinit : Forest.init E inp = .ok F) (hn : 0 < inp.raw.size) (hlt : 0 ≤ F.ctx.ap.supp.lt) (fuel : Nat) (comb : List Nat)
    (hk : 1 ≤ comb.length) (t : Node α) (ht : F.tree? E fuel comb = some t) (stream : List Nat) (bs : List (BCell α)) (n : Nat)
    (h : harvest E F.ctx t stream = .ok (bs, n)) :
    ∀ b ∈ bs, b.ivs.length = comb.length ∧ ∀ pos < b.ivs.length, ∃ m j rr out t',
      Releasable E F.ctx m ∧ Node.Sub m t' ∧ TInvO E F.ctx rr out t' ∧ j < m.data.comb.length ∧
      b.ivs.getD pos default = m.bucketIntervals.getD j default ∧ m.data.comb.getD j 0 = comb.getD pos 0 := by
  obtain ⟨⟨hc, _, hsh⟩, _⟩ := C18_forest_tree E inp F hinit hn fuel comb t hk ht
  intro b hb
  obtain ⟨hl, hr⟩ := C10_bucket_ranges E F.ctx hlt t hsh stream bs n h b hb
  rw [hc] at hl hr
  refine ⟨hl, fun pos hpos => ?_⟩
  obtain ⟨m, j, hreach, hrel, _, hj, hiv, hcol⟩ := hr pos hpos
  have hmF := reach_inForest E inp F hinit t m ⟨fuel, comb, t, hk, ht, Node.Sub.refl _⟩ hreach
  obtain ⟨rr, out, t', hT, hsub⟩ := inForest_invariant E inp F hinit hn m hmF
  exact ⟨m, j, rr, out, t', hrel, hsub, hT, hj, hiv, hcol⟩

/-- C01, backing (explicit ids): a releasable node holds at least `low_threshold` distinct non-null entities in every
id column (entities whose rows were folded in as outliers count towards the node, as the property says). -/
theorem C01_node_backed_generic (E : Env α) (c : FCtx α) (rr : List (Ival α)) (out : List Nat) (t m : Node α)
    (hT : TInvO E c rr out t) (hs : Node.Sub m t) (hrel : Releasable E c m)
    (dims cap : Nat) (hk : c.kind = .generic dims cap) (hrows : ∀ r, (c.pidRow r).length = dims)
    (hcap : c.ap.supp.lt ≤ (cap : Int)) :
    ∀ k < dims, c.ap.supp.lt ≤ ((entitySet (idColumn (m.allRows.map c.pidRow) k)).card : Int) := by
  obtain ⟨h0, hsub, hlow⟩ := releasable_licence E c rr out t m hT hs hrel
  rw [hk] at hlow
  exact C02_pass_backed_generic E c.ap.salt c.ap.supp cap dims _ _ (List.map_subset c.pidRow hsub.subset)
    (fun r hr => by obtain ⟨x, _, rfl⟩ := List.mem_map.mp hr; exact hrows x) hcap hlow

/-- C01, backing (implicit row ids): a releasable node holds at least `low_threshold` rows with a non-null id. -/
theorem C01_node_backed_unique (E : Env α) (c : FCtx α) (rr : List (Ival α)) (out : List Nat) (t m : Node α)
    (hT : TInvO E c rr out t) (hs : Node.Sub m t) (hrel : Releasable E c m) (hk : c.kind = .unique) :
    c.ap.supp.lt ≤ (nonNullRows (m.allRows.map c.pidRow) : Int) := by
  obtain ⟨h0, hsub, hlow⟩ := releasable_licence E c rr out t m hT hs hrel
  rw [hk] at hlow
  exact (pass_floor_unique E c.ap.salt c.ap.supp _ hlow).trans (Int.ofNat_le.mpr (nonNullRows_map_le c.pidRow hsub))

/-- C01, "whose own values fall inside it": every row a node holds that was not folded in as an outlier (and lies in
the tree's root range) has its value, in every column, inside the range the node releases for that column. -/
theorem C01_node_values_inside (E : Env α) (c : FCtx α) (rr : List (Ival α)) (out : List Nat) (t m : Node α)
    (hT : TInvO E c rr out t) (hs : Node.Sub m t) (r : Nat) (hr : r ∈ m.allRows) (hout : r ∉ out) (j : Nat)
    (hj : j < m.data.comb.length)
    (hroot : (rr.getD j default).lo ≤ c.value r (m.data.comb.getD j 0) ∧ c.value r (m.data.comb.getD j 0) ≤ (rr.getD j default).hi) :
    (m.bucketIntervals.getD j default).lo ≤ c.value r (m.data.comb.getD j 0) ∧
    c.value r (m.data.comb.getD j 0) ≤ (m.bucketIntervals.getD j default).hi :=
  TInvO.values_inside E c rr out t m hT hs r hr hout j hj hroot

/-! ## Leaves of whole trees (using the global tree invariant `TInv`, `C18_tree_invariant`): the leaf that passes the filter is a releasable node -/

/-- (i)+(ii) global, explicit ids: any leaf, anywhere in a tree built by `add_row`, that passes the filter — the only
leaves `_harvest_leaf` releases a bucket for — holds at least `low_threshold` distinct non-null entities in every id
column among the rows it holds. -/
theorem C01_leaf_backed_generic (E : Env α) (c : FCtx α) (root : List (Ival α)) (t : Node α) (hT : TInv E c root t)
    (d : NodeData α) (s : List (Option (Node α))) (rows : List Nat) (hs : Node.Sub (.leaf d s rows) t)
    (dims cap : Nat) (hk : c.kind = .generic dims cap) (hrows : ∀ r, (c.pidRow r).length = dims)
    (hcap : c.ap.supp.lt ≤ (cap : Int)) (hover : (Node.leaf d s rows).overThreshold E c c.ap.supp.lt = true) :
    ∀ k < dims, c.ap.supp.lt ≤ ((entitySet (idColumn (rows.map c.pidRow) k)).card : Int) := by
  have := C01_node_backed_generic E c root [] t _ (TInvO.ofTInv hT) hs (fun _ => hover) dims cap hk hrows hcap
  rwa [Node.allRows_leaf] at this

/-- (i)+(ii) global, implicit row ids: such a leaf holds at least `low_threshold` rows with a non-null id. -/
theorem C01_leaf_backed_unique (E : Env α) (c : FCtx α) (root : List (Ival α)) (t : Node α) (hT : TInv E c root t)
    (d : NodeData α) (s : List (Option (Node α))) (rows : List Nat) (hs : Node.Sub (.leaf d s rows) t)
    (hk : c.kind = .unique) (hover : (Node.leaf d s rows).overThreshold E c c.ap.supp.lt = true) :
    c.ap.supp.lt ≤ (nonNullRows (rows.map c.pidRow) : Int) := by
  have := C01_node_backed_unique E c root [] t _ (TInvO.ofTInv hT) hs (fun _ => hover) hk
  rwa [Node.allRows_leaf] at this

/-- the entities that back a released leaf bucket have *their own values inside the released range*: for every row
the leaf holds (whose value lies in the tree's root range) and every column, the value lies in the bucket's range —
the node's range, or the single point when the node holds one value only. -/
theorem C01_leaf_values_inside (E : Env α) (c : FCtx α) (root : List (Ival α)) (t : Node α) (hT : TInv E c root t)
    (d : NodeData α) (s : List (Option (Node α))) (rows : List Nat) (hs : Node.Sub (.leaf d s rows) t)
    (r : Nat) (hr : r ∈ rows) (j : Nat) (hj : j < d.comb.length)
    (hroot : (root.getD j default).lo ≤ c.value r (d.comb.getD j 0) ∧ c.value r (d.comb.getD j 0) ≤ (root.getD j default).hi) :
    ((Node.leaf d s rows).bucketIntervals.getD j default).lo ≤ c.value r (d.comb.getD j 0) ∧
    c.value r (d.comb.getD j 0) ≤ ((Node.leaf d s rows).bucketIntervals.getD j default).hi := by
  exact C01_node_values_inside E c root [] t _ (TInvO.ofTInv hT) hs r (by rwa [Node.allRows_leaf]) (List.not_mem_nil) j hj hroot

/-! ## Down to the cells of `sample()` (one cluster) -/

/-- the convertor `materialize_tree` uses for a string column: the fitted value map with the safe values analysed from the column's own tree -/
theorem analyzeConvertors_string (E : Env α) (F : Forest α) (convs : List (Conv α)) (j : Nat) (vm : List String) (safe : List Nat)
    (h : (analyzeConvertors E F convs).getD j .bool = .string vm safe) :
    (∃ t, F.tree? E 8 [j] = some t ∧ safe = analyzeTree E F.ctx 100000 t) ∨ safe = [] := by
  rw [analyzeConvertors_getD] at h
  split at h
  · cases h
    split
    · exact Or.inl ⟨_, ‹_›, rfl⟩
    · exact Or.inr rfl
  · rename_i hns
    exact absurd h (hns vm safe)

/-- what C01 says about the cell standing for column `j`: if the column is a string column and the cell holds a string, the string
is a mask, or is coded by a single-point range released for column `j` by a releasable node of a forest tree, or has a safe code
(the value of a filter-passing single-point leaf of the column's own tree) -/
def StringBacked (E : Env α) (F : Forest α) (convs : List (Conv α)) (j : Nat) (cell : Cell α × α) : Prop :=
  ∀ (vm : List String) (safe : List Nat) (str : String),
    (analyzeConvertors E F convs).getD j .bool = .string vm safe → cell.1 = .str str →
      (∃ pre v, str = pre ++ "*" ++ toString (v : Nat)) ∨
      (∃ m k rr out t' x, Releasable E F.ctx m ∧ Node.Sub m t' ∧ TInvO E F.ctx rr out t' ∧ k < m.data.comb.length ∧
        m.data.comb.getD k 0 = j ∧ m.bucketIntervals.getD k default = ⟨x, x⟩ ∧
        vm[(ScalarOps.trunc x : Int).toNat]? = some str) ∨
      (∃ t1 leaf, F.tree? E 8 [j] = some t1 ∧ leaf ∈ t1.leaves 100000 ∧ leaf.isSing = true ∧
        leaf.overThreshold E F.ctx F.ctx.ap.supp.lt = true ∧
        vm[(ScalarOps.trunc ((leaf.data.actual.getD 0 default).lo) : Int).toNat]? = some str)

/-- every microtable is well-typed for `StringBacked` (`C01_sample_strings`, cell by cell) -/
theorem materializeTree_stringBacked (E : Env α) (inp : ForestIn α) (F : Forest α) (hinit : Forest.init E inp = .ok F)
    (hn : 0 < inp.raw.size) (hlt : 0 ≤ F.ctx.ap.supp.lt) (convs : List (Conv α)) (comb : List Nat) (hk : 1 ≤ comb.length)
    (hstream : List Nat) (mstream : List (Draw α)) (rows : List (List (Cell α × α))) (drawn left : Nat)
    (h : materializeTree E F convs comb hstream mstream = .ok (rows, drawn, left)) :
    TableOK (StringBacked E F convs) (rows, comb) := by
  obtain ⟨t, bs, ht, hh, hrows⟩ := materializeTree_cells E inp F hinit hn hlt convs comb hk hstream mstream rows drawn left h
  intro row hrow
  obtain ⟨hlen, b, hb, hbl, hcells⟩ := hrows row hrow
  refine ⟨hlen, fun k hk' vm safe str hconv hcell => ?_⟩
  obtain ⟨s, s', hrun⟩ := hcells k hk'
  rw [hconv, show row.getD k default = (.str str, (row.getD k default).2) by rw [← hcell]] at hrun
  rcases string_cell_origin E vm safe _ _ s s' str _ hrun with ⟨hsing, h0, hvm⟩ | ⟨v, hv, hvm⟩ | hmask
  · -- a single-point range: the released range of a releasable node for this column
    obtain ⟨m, j, rr, out, t', hrel, hsub, hT, hj, hiv, hcol⟩ :=
      (C01_bucket_ranges_in_forest E inp F hinit hn hlt 8 comb hk t ht hstream bs drawn hh b hb).2 k (hbl ▸ hk')
    refine Or.inr (Or.inl ⟨m, j, rr, out, t', (b.ivs.getD k default).lo, hrel, hsub, hT, hj, ?_, ?_, hvm⟩)
    · simpa [List.getD_eq_getElem?_getD, hk'] using hcol
    · rw [← hiv]
      cases hb' : b.ivs.getD k default with
      | mk lo hi => rw [hb'] at hsing; simp only [Ival.isSing, beq_iff_eq] at hsing; rw [hsing]
  · -- a safe index
    rcases analyzeConvertors_string E F convs _ vm safe hconv with ⟨t1, ht1, rfl⟩ | rfl
    · obtain ⟨leaf, hl, h1, h2, h3⟩ := C01_safe_values_backed E F.ctx 100000 t1 v hv
      exact Or.inr (Or.inr ⟨t1, leaf, ht1, hl, h1, h2, h3 ▸ hvm⟩)
    · cases hv
  · exact Or.inl hmask

/-- **C01 for the strings of one cluster, end to end in the model.**  Whatever `materialize_tree` returns for any column combination of a
forest — any data, ids, salt, parameters, RNG streams —, a string cell in a string column is
* a mask `prefix*index`, or
* the string coded by the single value `x` of a range `[x, x]` that is the released range, *for that very column*, of a node of a forest tree
  which is a branch or a filter-passing leaf — a node that holds at least `low_threshold` distinct entities per id column
  (`C01_node_backed_generic` / `_unique`) and whose non-folded rows have their value inside `[x, x]` (`C01_node_values_inside`), or
* a string whose code is marked safe, i.e. is the single value of a filter-passing single-point leaf of the column's own tree
  (`C01_safe_values_backed`, and again `C01_node_backed_*` for that leaf).
Known finding F12 lives in the second clause: folded outliers count towards the edge leaf. -/
theorem C01_sample_strings (E : Env α) (inp : ForestIn α) (F : Forest α) (hinit : Forest.init E inp = .ok F)
    (hn : 0 < inp.raw.size) (hlt : 0 ≤ F.ctx.ap.supp.lt) (convs : List (Conv α)) (comb : List Nat) (hk : 1 ≤ comb.length)
    (hstream : List Nat) (mstream : List (Draw α)) (rows : List (List (Cell α × α))) (drawn left : Nat)
    (h : materializeTree E F convs comb hstream mstream = .ok (rows, drawn, left)) :
    ∀ row ∈ rows, ∀ (pos : Nat) (vm : List String) (safe : List Nat) (str : String) (f : α), pos < comb.length →
      (analyzeConvertors E F convs).getD (comb.getD pos 0) .bool = .string vm safe → row[pos]? = some (.str str, f) →
      (∃ pre v, str = pre ++ "*" ++ toString (v : Nat)) ∨
      (∃ m j rr out t' x, Releasable E F.ctx m ∧ Node.Sub m t' ∧ TInvO E F.ctx rr out t' ∧ j < m.data.comb.length ∧
        m.data.comb.getD j 0 = comb.getD pos 0 ∧ m.bucketIntervals.getD j default = ⟨x, x⟩ ∧
        vm[(ScalarOps.trunc x : Int).toNat]? = some str) ∨
      (∃ t1 leaf, F.tree? E 8 [comb.getD pos 0] = some t1 ∧ leaf ∈ t1.leaves 100000 ∧ leaf.isSing = true ∧
        leaf.overThreshold E F.ctx F.ctx.ap.supp.lt = true ∧
        vm[(ScalarOps.trunc ((leaf.data.actual.getD 0 default).lo) : Int).toNat]? = some str) := by
  intro row hrow pos vm safe str f hpos hconv hcell
  have ecomb : comb.getD pos 0 = comb[pos] := by simp [List.getD_eq_getElem?_getD, hpos]
  rw [ecomb] at hconv ⊢
  exact (materializeTree_stringBacked E inp F hinit hn hlt convs comb hk hstream mstream rows drawn left h row hrow).2 pos hpos
    vm safe str hconv (by simp [List.getD_eq_getElem?_getD, hcell])

/-- **C01 for the strings of a whole synthetic table (any cluster plan).**  Whatever plan `build_table` is given — stitched and
patched derived clusters, both ownership modes — and whatever the data, ids, salt, parameters and RNG streams: a string standing in
a string column `j` of the assembled table is a mask `prefix*index`, or the string coded by the single value of a range `[x, x]`
released *for column `j`* by a node of a forest tree that is a branch or a filter-passing leaf (so backed by `low_threshold` distinct
entities per id column, `C01_node_backed_*`, with values inside, `C01_node_values_inside`), or a string with a safe code. Stitching and
patching move cells only under their own column (`buildTable_cells`), so nothing new is released by assembling clusters. -/
theorem C01_table_strings (E : Env α) (inp : ForestIn α) (F : Forest α) (hinit : Forest.init E inp = .ok F)
    (hn : 0 < inp.raw.size) (hlt : 0 ≤ F.ctx.ap.supp.lt) (convs : List (Conv α))
    (isIntegral : List Bool) (entropy : List α) (threshRel : α) (cl : Clusters)
    (hini : 1 ≤ cl.initial.length) (hder : ∀ dc ∈ cl.derivedClusters, 1 ≤ dc.derived.length)
    (streams : List (List Nat × List (Draw α))) (s s' : List (Draw α)) (res : MTable (Cell α) α)
    (h : (buildTable E F convs isIntegral entropy threshRel cl streams).run s = .ok (res, s')) :
    ∀ row ∈ res.1, row.length = res.2.length ∧
      ∀ (k : Nat) (hk : k < res.2.length), StringBacked E F convs res.2[k] (row.getD k default) := by
  exact buildTable_cells E F convs isIntegral entropy threshRel cl streams s s' res _ hini hder
    (.of_tree E F convs _ fun comb hk => materializeTree_stringBacked E inp F hinit hn hlt convs comb hk) h

/-- **C01 for the strings of `Synthesizer(...).sample()` from the typed input table, any cluster plan.**  Convertors fitted on the typed
columns, the table normalised, the forest built, every cluster of the plan materialised and stitched or patched on: every string standing in
a string column of the synthetic table is a mask, the code of a single-point range released for that column by a releasable node of a
forest tree, or a string with a safe code — whatever the column types and values, the entity-id layout, the salt, the parameters, the
plan and every RNG stream. -/
theorem C01_synthesize_plan_strings (E : Env α) (cols : List (RawCol α)) (nrows : Nat) (names : List String)
    (pids : Array (List UInt64)) (ap : AnonParams α) (bp : BucketParams) (kind : CounterKind)
    (hn : 0 < nrows) (hlt : 0 ≤ ap.supp.lt)
    (isIntegral : List Bool) (entropy : List α) (threshRel : α) (cl : Clusters)
    (hini : 1 ≤ cl.initial.length) (hder : ∀ dc ∈ cl.derivedClusters, 1 ≤ dc.derived.length)
    (streams : List (List Nat × List (Draw α))) (s s' : List (Draw α)) (res : MTable (Cell α) α)
    (h : (synthesizePlan E cols nrows names pids ap bp kind isIntegral entropy threshRel cl streams).run s = .ok (res, s')) :
    ∃ (F : Forest α), forestOfTable E cols nrows names pids ap bp kind = .ok ((fitTable E cols nrows).1, F) ∧
      ∀ row ∈ res.1, row.length = res.2.length ∧
        ∀ (k : Nat) (hk : k < res.2.length), StringBacked E F (fitTable E cols nrows).1 res.2[k] (row.getD k default) := by
  obtain ⟨F, hinit, hb⟩ := synthesizePlan_ok h
  refine ⟨F, by unfold forestOfTable; rw [hinit], ?_⟩
  exact C01_table_strings E _ F hinit (by simpa [fitTable] using hn) (by rw [(forest_init_ctx E _ F hinit).2.1]; exact hlt) _
    isIntegral entropy threshRel cl hini hder streams s s' res hb

end
