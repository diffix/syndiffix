import SdxProofs.CounterLemmas
import SdxModel.Synth
set_option linter.unusedSectionVars false
/-!
# C02 — Suppression decision: hard floor, normal threshold, keyed by salt + entity set

`E : Env α` is arbitrary: the hash functions and the normal deviate `z` are uninterpreted, so every
statement holds for all salts, seeds and noise functions. The probability clause (Φ) is a statement
about the distribution of `z ∘ SHA-256` and is *not* proved (see `C02_pass_iff_z_le`: the pass set is
a sub-level set of `z`, so *if* `z` is standard normal the pass probability is Φ of the stated bound).
-/

section
variable {α : Type} [Field α] [LinearOrder α] [IsStrictOrderedRing α] [FloorRing α]

/-- T02.b  the rule: suppressed iff some id column is below the floor or below its noisy threshold. -/
theorem C02_rule (E : Env α) (salt : ByteArray) (p : SuppParams α) (ts : List (Int × UInt64)) :
    isLowCount E salt p ts = true ↔
      ∃ t ∈ ts, t.1 < p.lt ∨ (t.1 : α) < p.sd * E.z (suppressSeed E salt t.2) + (p.gap * p.sd + p.lt) := by
  simp only [isLowCount, List.any_eq_true, trackerLow_iff]

/-- T02.a  hard floor: a group below `low_threshold` in any id column is always suppressed —
for every salt, seed, noise function and the other parameters. -/
theorem C02_floor (E : Env α) (salt : ByteArray) (p : SuppParams α) (ts : List (Int × UInt64))
    (c : Int) (s : UInt64) (hm : (c, s) ∈ ts) (hc : c < p.lt) : isLowCount E salt p ts = true :=
  (C02_rule E salt p ts).mpr ⟨(c, s), hm, Or.inl hc⟩

/-- the rule read from the other side: a group passes iff every tracked id column is at the floor and at its noisy threshold -/
theorem C02_pass_iff (E : Env α) (salt : ByteArray) (p : SuppParams α) (ts : List (Int × UInt64)) :
    isLowCount E salt p ts = false ↔
      ∀ t ∈ ts, p.lt ≤ t.1 ∧ p.sd * E.z (suppressSeed E salt t.2) + (p.gap * p.sd + p.lt) ≤ (t.1 : α) := by
  simp only [← Bool.not_eq_true, C02_rule, not_exists, not_and, not_or, not_lt]

theorem C02_pass_floor (E : Env α) (salt : ByteArray) (p : SuppParams α) (ts : List (Int × UInt64))
    (h : isLowCount E salt p ts = false) (t : Int × UInt64) (ht : t ∈ ts) : p.lt ≤ t.1 :=
  ((C02_pass_iff E salt p ts).mp h t ht).1

/-- one id column: suppressed iff below the floor or below the noisy threshold -/
theorem low_singleton_iff (E : Env α) (salt : ByteArray) (p : SuppParams α) (c : Int) (s : UInt64) :
    isLowCount E salt p [(c, s)] = true ↔
      c < p.lt ∨ (c : α) < p.sd * E.z (suppressSeed E salt s) + (p.gap * p.sd + p.lt) := by
  simp only [C02_rule, List.mem_singleton, exists_eq_left]

/-- one id column: passed iff at the floor and at the noisy threshold -/
theorem pass_singleton_iff (E : Env α) (salt : ByteArray) (p : SuppParams α) (c : Int) (s : UInt64) :
    isLowCount E salt p [(c, s)] = false ↔
      p.lt ≤ c ∧ p.sd * E.z (suppressSeed E salt s) + (p.gap * p.sd + p.lt) ≤ (c : α) := by
  simp only [C02_pass_iff, List.mem_singleton, forall_eq]

/-- T02.c in one statement (fixed seed, same `sd`): fewer entities, a higher floor, a larger `gap·sd` — what was
suppressed stays suppressed. -/
theorem low_singleton_mono (E : Env α) (salt : ByteArray) {p p' : SuppParams α} {c c' : Int} (s : UInt64)
    (hc : c ≤ c') (hlt : p.lt ≤ p'.lt) (hsd : p'.sd = p.sd) (hg : p.gap * p.sd ≤ p'.gap * p.sd)
    (h : isLowCount E salt p [(c', s)] = true) : isLowCount E salt p' [(c, s)] = true := by
  rw [low_singleton_iff] at h ⊢
  have hc' : (c : α) ≤ c' := Int.cast_le.mpr hc
  have hlt' : (p.lt : α) ≤ p'.lt := Int.cast_le.mpr hlt
  rw [hsd]
  exact h.imp (fun h => (hc.trans_lt h).trans_le hlt) fun h => (hc'.trans_lt h).trans_le (add_le_add le_rfl (add_le_add hg hlt'))

/-- T02.c  monotone in the entity count (fixed seed, `sd` arbitrary). -/
theorem C02_mono_count (E : Env α) (salt : ByteArray) (p : SuppParams α) (c c' : Int) (s : UInt64)
    (hcc : c ≤ c') (h : isLowCount E salt p [(c', s)] = true) : isLowCount E salt p [(c, s)] = true :=
  low_singleton_mono E salt s hcc le_rfl rfl le_rfl h

/-- T02.c  monotone in `low_threshold` (fixed seed). -/
theorem C02_mono_threshold (E : Env α) (salt : ByteArray) (p : SuppParams α) (lt' : Int) (c : Int) (s : UInt64)
    (hlt : p.lt ≤ lt') (h : isLowCount E salt p [(c, s)] = true) :
    isLowCount E salt { p with lt := lt' } [(c, s)] = true :=
  low_singleton_mono E salt s le_rfl hlt rfl le_rfl h

/-- T02.c  monotone in `low_mean_gap` (fixed seed, `sd ≥ 0`). -/
theorem C02_mono_gap (E : Env α) (salt : ByteArray) (p : SuppParams α) (gap' : α) (c : Int) (s : UInt64)
    (hsd : 0 ≤ p.sd) (hg : p.gap ≤ gap') (h : isLowCount E salt p [(c, s)] = true) :
    isLowCount E salt { p with gap := gap' } [(c, s)] = true :=
  low_singleton_mono E salt (p := p) s le_rfl le_rfl rfl (mul_le_mul_of_nonneg_right hg hsd) h

/-- T02.d  for `sd > 0` a group passes iff it reaches the floor and its deviate is at most
`(n - low_threshold - gap·sd)/sd` — the pass set over seeds is a sub-level set of `z`. -/
theorem C02_pass_iff_z_le (E : Env α) (salt : ByteArray) (p : SuppParams α) (c : Int) (s : UInt64) (hsd : 0 < p.sd) :
    isLowCount E salt p [(c, s)] = false ↔
      p.lt ≤ c ∧ E.z (suppressSeed E salt s) ≤ ((c : α) - p.lt - p.gap * p.sd) / p.sd := by
  rw [pass_singleton_iff, le_div_iff₀ hsd, le_sub_iff_add_le, le_sub_iff_add_le, mul_comm p.sd, add_assoc]

/-- T02.d  with the noise switched off the decision is the hard floor alone. -/
theorem C02_pass_iff_sd_zero (E : Env α) (salt : ByteArray) (p : SuppParams α) (c : Int) (s : UInt64) (hsd : p.sd = 0) :
    isLowCount E salt p [(c, s)] = false ↔ p.lt ≤ c := by
  rw [pass_singleton_iff, hsd, zero_mul, mul_zero, zero_add, zero_add, Int.cast_le, and_self]

end

/-! ## The counters: set semantics, invariances, saturation -/

section
variable {α : Type} [Field α] [LinearOrder α] [IsStrictOrderedRing α] [FloorRing α]

/-- T02.e  (refinement to finite sets) After *any* insertion sequence the generic counter hands the rule,
for every id column that still tracks fewer than `cap` ids, exactly `(|S|, ⨁S)` where `S` is the set of
distinct non-null ids of that column; saturated columns are dropped. -/
theorem C02_counter_set_semantics (cap dims : Nat) (rows : List (List UInt64)) (h : ∀ r ∈ rows, r.length = dims) :
    ((CounterKind.generic dims cap).newEntity.addMany rows).trackers = specTrackers cap dims rows := by
  rw [generic_addMany cap dims rows h, ECounter.trackers, specTrackers]
  induction List.range dims with
  | nil => rfl
  | cons d ds ih =>
    obtain ⟨hiff, heq⟩ := colState_spec cap (idColumn rows d)
    rw [List.map_cons, List.filter_cons, List.filterMap_cons]
    by_cases hu : (colState cap (idColumn rows d)).length < cap
    · obtain ⟨hc, hx⟩ := heq hu
      rw [if_pos (decide_eq_true hu), if_pos (hiff.mp hu), List.map_cons, ih, hc, hx]
    · rw [if_neg (by simpa using hu), if_neg (mt hiff.mpr hu), ih]

/-- the decision of the generic counter on a list of id rows -/
noncomputable def genericDecision (E : Env α) (salt : ByteArray) (p : SuppParams α) (cap dims : Nat) (rows : List (List UInt64)) : Bool :=
  ((CounterKind.generic dims cap).newEntity.addMany rows).isLowCount E salt p

theorem genericDecision_eq (E : Env α) (salt : ByteArray) (p : SuppParams α) (cap dims : Nat)
    (rows : List (List UInt64)) (h : ∀ r ∈ rows, r.length = dims) :
    genericDecision E salt p cap dims rows = isLowCount E salt p (specTrackers cap dims rows) := by
  rw [genericDecision, ECounter.isLowCount_eq, C02_counter_set_semantics cap dims rows h]

/-- T02.e  The decision is a function of the salt, the parameters and the per-column *sets* of distinct
non-null ids only. -/
theorem C02_decision_depends_on_sets_only (E : Env α) (salt : ByteArray) (p : SuppParams α) (cap dims : Nat)
    (rows rows' : List (List UInt64)) (h : ∀ r ∈ rows, r.length = dims) (h' : ∀ r ∈ rows', r.length = dims)
    (hs : ∀ d < dims, entitySet (idColumn rows d) = entitySet (idColumn rows' d)) :
    genericDecision E salt p cap dims rows = genericDecision E salt p cap dims rows' := by
  rw [genericDecision_eq E salt p cap dims rows h, genericDecision_eq E salt p cap dims rows' h']
  congr 1
  exact List.filterMap_congr fun d hd => by rw [hs d (List.mem_range.mp hd)]

/-- insertion order does not matter -/
theorem C02_order_invariant (E : Env α) (salt : ByteArray) (p : SuppParams α) (cap dims : Nat)
    (rows rows' : List (List UInt64)) (h : ∀ r ∈ rows, r.length = dims) (hp : rows.Perm rows') :
    genericDecision E salt p cap dims rows = genericDecision E salt p cap dims rows' :=
  C02_decision_depends_on_sets_only E salt p cap dims rows rows' h (fun r hr => h r (hp.mem_iff.mpr hr)) fun d _ =>
    Finset.Subset.antisymm (entitySet_mono_subset _ _ hp.subset d) (entitySet_mono_subset _ _ hp.symm.subset d)

/-- duplicate rows do not matter -/
theorem C02_duplicate_invariant (E : Env α) (salt : ByteArray) (p : SuppParams α) (cap dims : Nat)
    (rows : List (List UInt64)) (r : List UInt64) (h : ∀ r ∈ rows, r.length = dims) (hr : r ∈ rows) :
    genericDecision E salt p cap dims (rows ++ [r]) = genericDecision E salt p cap dims rows := by
  have hsub : rows ++ [r] ⊆ rows := List.append_subset.mpr ⟨List.Subset.refl _, List.cons_subset.mpr ⟨hr, List.nil_subset _⟩⟩
  exact C02_decision_depends_on_sets_only E salt p cap dims _ _ (fun r' hr' => h r' (hsub hr')) h fun d _ =>
    Finset.Subset.antisymm (entitySet_mono_subset _ _ hsub d) (entitySet_mono_subset _ _ (List.subset_append_left _ _) d)

/-- rows whose ids are all null do not matter -/
theorem C02_null_invariant (E : Env α) (salt : ByteArray) (p : SuppParams α) (cap dims : Nat)
    (rows : List (List UInt64)) (h : ∀ r ∈ rows, r.length = dims) :
    genericDecision E salt p cap dims (rows ++ [List.replicate dims 0]) = genericDecision E salt p cap dims rows := by
  refine C02_decision_depends_on_sets_only E salt p cap dims _ _ (fun r' hr' => ?_) h fun d hd => ?_
  · rcases List.mem_append.mp hr' with hr' | hr'
    · exact h r' hr'
    · rw [List.mem_singleton.mp hr', List.length_replicate]
  · refine Finset.Subset.antisymm (fun y hy => ?_) (entitySet_mono_subset _ _ (List.subset_append_left _ _) d)
    rw [mem_entitySet_idColumn] at hy ⊢
    obtain ⟨⟨r', hr', rfl⟩, h0⟩ := hy
    rcases List.mem_append.mp hr' with hr' | hr'
    · exact ⟨⟨r', hr', rfl⟩, h0⟩
    · rw [List.mem_singleton.mp hr'] at h0; simp [List.getD_eq_getElem?_getD, hd] at h0

/-- T02.f  saturation: the counter answers "not suppressed" only if every id column either holds at
least `cap` distinct entities or passes the rule with its exact entity count — in particular never
below `min(low_threshold, cap)` entities. -/
theorem C02_not_suppressed_floor (E : Env α) (salt : ByteArray) (p : SuppParams α) (cap dims : Nat)
    (rows : List (List UInt64)) (h : ∀ r ∈ rows, r.length = dims)
    (hns : genericDecision E salt p cap dims rows = false) :
    ∀ d < dims, (cap ≤ (entitySet (idColumn rows d)).card) ∨ (p.lt ≤ ((entitySet (idColumn rows d)).card : Int)) := by
  intro d hd
  rw [genericDecision_eq E salt p cap dims rows h] at hns
  by_cases hc : (entitySet (idColumn rows d)).card < cap
  · exact Or.inr (C02_pass_floor E salt p _ hns _ (List.mem_filterMap.mpr ⟨d, List.mem_range.mpr hd, if_pos hc⟩))
  · exact Or.inl (not_lt.mp hc)

/-- T02.f  with the cap at or above `low_threshold` (which `Synthesizer.__init__` establishes, see
`Generated`/C01) "not suppressed" implies at least `low_threshold` distinct entities in every id column. -/
theorem C02_saturating_counter_floor (E : Env α) (salt : ByteArray) (p : SuppParams α) (cap dims : Nat)
    (rows : List (List UInt64)) (h : ∀ r ∈ rows, r.length = dims) (hcap : p.lt ≤ (cap : Int))
    (hns : genericDecision E salt p cap dims rows = false) :
    ∀ d < dims, p.lt ≤ ((entitySet (idColumn rows d)).card : Int) := by
  intro d hd
  rcases C02_not_suppressed_floor E salt p cap dims rows h hns d hd with h1 | h1
  · exact hcap.trans (Int.ofNat_le.mpr h1)
  · exact h1

/-- T02.f  a pass on some of the rows backs every larger set of rows: entity sets only grow. -/
theorem C02_pass_backed_generic (E : Env α) (salt : ByteArray) (p : SuppParams α) (cap dims : Nat)
    (h0 all : List (List UInt64)) (hsub : h0 ⊆ all) (h : ∀ r ∈ h0, r.length = dims) (hcap : p.lt ≤ (cap : Int))
    (hns : genericDecision E salt p cap dims h0 = false) :
    ∀ d < dims, p.lt ≤ ((entitySet (idColumn all d)).card : Int) := fun d hd =>
  (C02_saturating_counter_floor E salt p cap dims h0 h hcap hns d hd).trans
    (Int.ofNat_le.mpr (Finset.card_le_card (entitySet_mono_subset h0 all hsub d)))

/-- T02.f  below the cap the counter *is* the rule on the exact entity counts. -/
theorem C02_counter_agrees_below_cap (E : Env α) (salt : ByteArray) (p : SuppParams α) (cap dims : Nat)
    (rows : List (List UInt64)) (h : ∀ r ∈ rows, r.length = dims) (hd : 0 < dims)
    (hall : ∀ d < dims, (entitySet (idColumn rows d)).card < cap) :
    genericDecision E salt p cap dims rows =
      isLowCount E salt p ((List.range dims).map fun d =>
        (((entitySet (idColumn rows d)).card : Int), xorSet (entitySet (idColumn rows d)))) := by
  rw [genericDecision_eq E salt p cap dims rows h, specTrackers, ← List.filterMap_eq_map']
  congr 1
  exact List.filterMap_congr fun d hd' => if_pos (hall d (List.mem_range.mp hd'))

/-- Non-vacuity: three rows with two id columns satisfy the well-formedness hypothesis. -/
example : ∀ r ∈ ([[1, 7], [2, 0], [1, 7]] : List (List UInt64)), r.length = 2 := by decide

end

/-! ## The unique-id counter -/

theorem unique_addMany (c : Nat) (s : UInt64) (rows : List (List UInt64)) (h : ∀ r ∈ rows, r.length = 1) :
    (ECounter.unique c s).addMany rows =
      .unique (c + ((idColumn rows 0).filter (· ≠ 0)).length) (((idColumn rows 0).filter (· ≠ 0)).foldl (· ^^^ ·) s) := by
  induction rows generalizing c s with
  | nil => rfl
  | cons r rows ih =>
    have ih' := fun c s => ih c s fun r' hr' => h r' (List.mem_cons_of_mem _ hr')
    match r, h r List.mem_cons_self with
    | [pid], _ =>
      by_cases h0 : pid = 0
      · simpa [ECounter.addMany, ECounter.add, idColumn, h0] using ih' c s
      · simpa [ECounter.addMany, ECounter.add, idColumn, h0, Nat.add_assoc, Nat.add_comm 1] using ih' (c + 1) (s ^^^ pid)

/-- T02.e for `UniquePidCounter`, under its stated precondition (non-null ids pairwise distinct):
the tracker is `(|S|, ⨁S)` — the same function of the entity set as for the generic counter. -/
theorem C02_unique_counter_set_semantics (rows : List (List UInt64)) (h : ∀ r ∈ rows, r.length = 1)
    (hdistinct : ((idColumn rows 0).filter (· ≠ 0)).Nodup) :
    (CounterKind.unique.newEntity.addMany rows).trackers =
      [(((entitySet (idColumn rows 0)).card : Int), xorSet (entitySet (idColumn rows 0)))] := by
  simp only [CounterKind.newEntity]
  rw [unique_addMany 0 0 rows h]
  simp only [ECounter.trackers, Nat.zero_add]
  have h1 : (entitySet (idColumn rows 0)).card = ((idColumn rows 0).filter (· ≠ 0)).length := by
    unfold entitySet; exact List.toFinset_card_of_nodup hdistinct
  have h2 : xorSet (entitySet (idColumn rows 0)) = ((idColumn rows 0).filter (· ≠ 0)).foldl (· ^^^ ·) 0 := by
    unfold entitySet; rw [← xorAll_eq_xorSet hdistinct]; rfl
  rw [h1, h2]

/-! ## The cap chosen by `Synthesizer.__init__` -/
section
variable {α : Type} [Field α] [LinearOrder α] [IsStrictOrderedRing α] [FloorRing α]

/-- T02.f  The counters stop tracking only at or above every threshold they are asked about and at or above
`range_low_threshold + ⌊(gap+4)·sd⌋` (for `gap, sd ≥ 0`), which is what C02's saturation clause and C01's
floor (`C02_saturating_counter_floor`) need. -/
theorem C02_cap_bounds (lt sing range : Int) (gap sd : α) (hg : 0 ≤ gap) (hs : 0 ≤ sd) :
    lt ≤ maxLowCount lt sing range gap sd ∧ sing ≤ maxLowCount lt sing range gap sd ∧
      range + ⌊(gap + 4) * sd⌋ ≤ maxLowCount lt sing range gap sd := by
  have hnn : (0 : α) ≤ (gap + 4) * sd := by positivity
  have hf : (0 : Int) ≤ ⌊(gap + 4) * sd⌋ := Int.floor_nonneg.mpr hnn
  have ht : (ScalarOps.trunc ((gap + ofInt 4) * sd) : Int) = ⌊(gap + 4) * sd⌋ := by
    rw [strunc_eq]; simp [hnn]
  unfold maxLowCount
  rw [ht]
  refine ⟨?_, ?_, ?_⟩ <;> omega

end
