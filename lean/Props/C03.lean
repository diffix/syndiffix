import SdxProofs.CounterLemmas
import SdxProofs.FlattenLemmas
import Props.C03Real
set_option linter.unusedSectionVars false
/-!
# C03 — Count noise: two salted sticky layers of the configured sd, floored counts

`E : Env α` is arbitrary (hashes and the deviate `z` uninterpreted). Zero mean, standard deviation and
independence of the layers are statements about the distribution of `z ∘ SHA-256` and are **not proved**
(trusted base); what is proved is the structure (exactly two layers, each `sd · z(H(salt, own seed))`),
stickiness, the dependence on exactly (salt, bucket seed, entity-set seed), the floor and the hard bound.
-/

section
variable {α : Type} [Field α] [LinearOrder α] [IsStrictOrderedRing α] [FloorRing α]

/-- the seed that keys one count-noise layer -/
def noiseSeed (E : Env α) (salt : ByteArray) (seed : UInt64) : UInt64 := mixSeed E "noise" (saltedSeed E salt seed)

/-- T03.a  (one row per entity) the released count is the true count plus exactly two layers, one keyed by
(salt, bucket seed) and one by (salt, xor of the entity ids), each `layer_noise_sd · z(·)`, rounded half-even. -/
theorem C03_single_structure (E : Env α) (ap : AnonParams α) (bs : UInt64) (c : Int) (s : UInt64) :
    countSingle E ap bs c s =
      ScalarOps.roundHE ((c : α) + (ap.noiseSd * E.z (noiseSeed E ap.salt bs) + ap.noiseSd * E.z (noiseSeed E ap.salt s))) := by
  simp [countSingle, generateNoise_two, noiseSeed]

/-- T03.a  (explicit ids) the noise of an id column is two layers of sd `layer_noise_sd · scale`,
`scale = max(flattened average, ½ · top average)`, keyed by (salt, bucket seed) and (salt, xor of its ids). -/
theorem C03_multi_structure (E : Env α) (ap : AnonParams α) (bs : UInt64) (sorted : List (UInt64 × Nat)) (un oc tc : Nat) :
    let r := flattenCore E ap bs sorted un oc tc
    r.noise = r.noiseSd * E.z (noiseSeed E ap.salt bs) + r.noiseSd * E.z (noiseSeed E ap.salt (xorAll (sorted.map (·.1)))) :=
  generateNoise_two E ap.salt "noise" _ bs _

/-- T03.d  hard bound: if the deviate is bounded by `B` (for Box–Muller with `u₁ ≥ 2⁻⁵²`, `B = 8.5`, see DESIGN),
the two layers together are within `2·B·sd`. -/
theorem C03_noise_bound (E : Env α) (salt : ByteArray) (sd B : α) (l₁ l₂ : UInt64) (hsd : 0 ≤ sd)
    (hz : ∀ s, |E.z s| ≤ B) : |generateNoise E salt "noise" sd [l₁, l₂]| ≤ 2 * B * sd := by
  rw [generateNoise_two, ← mul_add, abs_mul, abs_of_nonneg hsd, mul_comm (2 * B), two_mul]
  exact mul_le_mul_of_nonneg_left ((abs_add_le _ _).trans (add_le_add (hz _) (hz _))) hsd

/-- T03.b  stickiness: the entity layer depends on the *set* of ids only (any order of the rows). -/
theorem C03_entity_seed_order_independent {l l' : List UInt64} (h : l.Perm l') : xorAll l = xorAll l' := xorAll_perm h

theorem eraseDups_nodup : ∀ (l : List String), l.eraseDups.Nodup := by
  intro l
  induction h : l.length using Nat.strong_induction_on generalizing l with
  | _ n ih =>
    cases l with
    | nil => simp
    | cons a as =>
      rw [List.eraseDups_cons]
      refine List.nodup_cons.mpr ⟨?_, ?_⟩
      · intro hm
        have := (List.mem_eraseDups.mp hm)
        simp at this
      · apply ih (as.filter fun b => !b == a).length _ _ rfl
        subst h
        exact Nat.lt_succ_of_le (List.length_filter_le _ _)

/-- T03.b  the bucket layer depends on the *set* of labels / column names only: order and repetition
of the strings do not matter. -/
theorem C03_hashStrings_set (E : Env α) (l l' : List String) (h : ∀ s, s ∈ l ↔ s ∈ l') :
    hashStrings E l = hashStrings E l' := by
  unfold hashStrings
  apply xorAll_perm
  apply List.Perm.map
  apply (List.perm_ext_iff_of_nodup (eraseDups_nodup l) (eraseDups_nodup l')).mpr
  intro s
  rw [List.mem_eraseDups, List.mem_eraseDups]; exact h s

/-- T03.e  the noisy row limit is `L + k` with `L = rows / fraction`, `k = (seed mod (2r+1)) − r`, `r = L/20`:
within ±5 % of `L`, and every residue of the seed gives a different `k` (uniform up to the modulo bias). -/
theorem C03_rowLimit_range (E : Env α) (salt : ByteArray) (seed : UInt64) (rows fraction : Nat) :
    let L : Int := (rows / fraction : Nat)
    L - L / 20 ≤ noisyRowLimit E salt seed rows fraction ∧ noisyRowLimit E salt seed rows fraction ≤ L + L / 20 := by
  simp only [noisyRowLimit]
  have hL : (0 : Int) ≤ ((rows / fraction : Nat) : Int) := Int.natCast_nonneg _
  have hr : (0 : Int) ≤ ((rows / fraction : Nat) : Int) / 20 := Int.ediv_nonneg hL (by norm_num)
  obtain ⟨h1, h2⟩ := randomUniform_range ⟨-(((rows / fraction : Nat) : Int) / 20), ((rows / fraction : Nat) : Int) / 20⟩
    (mixSeed E "precision_limit" (saltedSeed E salt seed)) (by simp only; omega)
  simp only at h1 h2
  constructor <;> omega

theorem C03_rowLimit_residue (E : Env α) (salt : ByteArray) (seed : UInt64) (rows fraction : Nat) :
    let L : Int := (rows / fraction : Nat)
    noisyRowLimit E salt seed rows fraction =
      L + (((mixSeed E "precision_limit" (saltedSeed E salt seed)).toNat : Int) % (2 * (L / 20) + 1) - L / 20) := by
  simp only [noisyRowLimit, randomUniform, sub_neg_eq_add, two_mul, ← sub_eq_add_neg]

end
