import SdxProofs.SortLemmas
import SdxProofs.FlattenLemmas
import SdxProofs.CounterLemmas
import Mathlib.Tactic.Linarith
set_option linter.unusedSectionVars false
/-!
# C04 — Flattening bounds every entity's influence on a released count
-/

/-- T04.a  Compacting the flattening intervals to the number of entities never fails; it yields nothing
iff there are fewer than `outlier.lower + top.lower` entities; otherwise the lower bounds are kept, the
upper bounds shrink but stay at or above the lower bounds, and together they fit into the entity count
(never empty, never oversized). For all intervals with `lower ≤ upper` and every entity count. -/
theorem C04_compact_spec (ol ou tl tu total : Int) (h1 : ol ≤ ou) (h2 : tl ≤ tu) :
    match compactIntervals ⟨ol, ou⟩ ⟨tl, tu⟩ total with
    | .error _ => False
    | .ok none => total < ol + tl
    | .ok (some (o, t)) =>
        ol + tl ≤ total ∧ o.lower = ol ∧ t.lower = tl ∧ ol ≤ o.upper ∧ o.upper ≤ ou ∧ tl ≤ t.upper ∧ t.upper ≤ tu ∧
          o.upper + t.upper ≤ total := by
  unfold compactIntervals
  simp only
  split_ifs with ha hb
  · exact ha
  · -- `oadj + tadj = adj`, and since `ol + tl ≤ total` the two ranges together are at least `adj`: the fourth case cannot
    -- arise, and in the other three the upper bounds are lowered by `adj` in total without passing the lower bounds
    generalize hadj : ou + tu - total = adj at hb ⊢
    have hdiv : 2 * (adj / 2) ≤ adj ∧ adj ≤ 2 * (adj / 2) + 1 := by omega
    generalize adj / 2 = oadj at hdiv ⊢
    by_cases c1 : ou - ol ≥ oadj <;> by_cases c2 : tu - tl ≥ adj - oadj <;>
      simp only [c1, c2, decide_true, decide_false, true_and] <;> omega
  · simp only [true_and]; omega

/-- T04.e  fewer than `outlier.lower + top.lower` entities ⇒ no count can be produced. -/
theorem C04_too_few_entities (ol ou tl tu total : Int) (h : total < ol + tl) :
    compactIntervals ⟨ol, ou⟩ ⟨tl, tu⟩ total = .ok none := by
  unfold compactIntervals; simp [h]

/-- Non-vacuity: the default intervals (2,5)/(2,5) with 6 entities compact to (2,3)/(2,3). -/
example : compactIntervals ⟨2, 5⟩ ⟨2, 5⟩ 6 = .ok (some (⟨2, 3⟩, ⟨2, 3⟩)) := by
  simp [compactIntervals]

section
variable {α : Type} [Field α] [LinearOrder α] [IsStrictOrderedRing α] [FloorRing α]

theorem cast_sumNat (l : List Nat) : ((sumNat l : ℕ) : α) = sumα l := by
  rw [sumNat, ← List.sum_eq_foldl]
  simpa [sumα, toα] using map_list_sum (Nat.castAddMonoidHom α) l

/-- the average contribution of the top group -/
noncomputable def topAvgOf (cs : List Nat) (oc tc : Nat) : α := sumα ((cs.drop oc).take tc) / (tc : α)

/-- the noise-free part of the count: true sum minus the flattening of the `oc` heaviest entities -/
noncomputable def flatSumOf (cs : List Nat) (oc tc : Nat) : α := sumα cs - flatteningOf (cs.take oc) (topAvgOf cs oc tc)

/-- `flattenCore` in closed form -/
theorem flattenCore_eq (E : Env α) (ap : AnonParams α) (bs : UInt64) (sorted : List (UInt64 × Nat)) (un oc tc : Nat) :
    flattenCore E ap bs sorted un oc tc =
      (let cs := sorted.map (·.2)
       let avg : α := topAvgOf cs oc tc
       let fl := flatteningOf (cs.take oc) avg
       let sd := ap.noiseSd * max (flatSumOf cs oc tc / (sorted.length : α)) (1 / 2 * avg)
       ⟨flatSumOf cs oc tc + max (((un : ℤ) : α) - fl) 0, fl, sd,
        generateNoise E ap.salt "noise" sd [bs, xorAll (sorted.map (·.1))]⟩) := by
  simp only [flattenCore, flatSumOf, topAvgOf, smax_eq_max, ofInt_eq, Int.cast_zero, Int.ofNat_eq_natCast,
    Int.cast_natCast, cast_sumNat, Int.cast_one, Int.cast_ofNat]

theorem flatSumOf_zero (b : List Nat) (tc : Nat) : flatSumOf (α := α) b 0 tc = sumα b := by
  rw [flatSumOf, List.take_zero, flatteningOf_eq_sum, List.map_nil, List.sum_nil, sub_zero]

/-- the top group's average is at most any bound on the contributions it is taken from (also when the group is empty) -/
theorem topAvgOf_le (b : List Nat) (oc tc c : Nat) (h : ∀ x ∈ b, x ≤ c) : topAvgOf (α := α) b oc tc ≤ ((c : ℤ) : α) := by
  have hc : (0 : α) ≤ ((c : ℤ) : α) := Int.cast_nonneg (Int.natCast_nonneg c)
  have h1 := sumα_le (α := α) ((b.drop oc).take tc) ((c : ℤ) : α) fun x hx =>
    Int.cast_le.mpr (Int.ofNat_le.mpr (h x (List.mem_of_mem_drop (List.mem_of_mem_take hx))))
  have h2 : (((b.drop oc).take tc).length : α) ≤ (tc : α) := Nat.cast_le.mpr (List.length_take_le _ _)
  exact div_le_of_le_mul₀ (Nat.cast_nonneg tc) hc
    (h1.trans ((mul_le_mul_of_nonneg_right h2 hc).trans_eq (mul_comm _ _)))

/-- Entities at least as heavy as the top group's average are flattened to exactly that average: a prefix `a` of such
entities (all of them outliers, `|a| ≤ oc`) contributes `|a| · avg`, and the rest is flattened as if `a` were not there. -/
theorem flatSumOf_heavy_prefix (a b : List Nat) (oc tc : Nat) (hk : a.length ≤ oc)
    (havg : ∀ c ∈ a, topAvgOf (α := α) b (oc - a.length) tc ≤ ((c : ℤ) : α)) :
    topAvgOf (α := α) (a ++ b) oc tc = topAvgOf b (oc - a.length) tc ∧
    flatSumOf (α := α) (a ++ b) oc tc =
      (a.length : α) * topAvgOf b (oc - a.length) tc + flatSumOf b (oc - a.length) tc := by
  have havg' : topAvgOf (α := α) (a ++ b) oc tc = topAvgOf b (oc - a.length) tc := by
    unfold topAvgOf; rw [List.drop_append, List.drop_of_length_le hk, List.nil_append]
  refine ⟨havg', ?_⟩
  unfold flatSumOf
  rw [havg', List.take_append, List.take_of_length_le hk, flatteningOf_append, flatteningOf_of_ge _ _ havg, sumα_append]
  ring

/-- T04.b  For contributions sorted decreasingly, `oc` flattened outliers and a top group of `tc > 0`
entities inside the list, the noise-free part of the released count is
`oc·avg + Σ_{i ≥ oc} cᵢ` and lies between `Σ min(cᵢ, m)` and `Σ min(cᵢ, M)` for every `m` that is at most
every member of the top group and every `M` that is at least every contribution from position `oc` on
(in particular `m = c_(ou+tu)`, `M = c_(ol+1)` of the sorted list, since `ol ≤ oc` and `oc + tc ≤ ou + tu`). -/
theorem C04_flattened_sum_bounds (cs : List Nat) (oc tc : Nat) (m M : α)
    (hsorted : cs.Pairwise (· ≥ ·)) (htc : 0 < tc) (hlen : oc + tc ≤ cs.length)
    (hm : ∀ b ∈ (cs.drop oc).take tc, m ≤ ((b : ℤ) : α)) (hM : ∀ b ∈ cs.drop oc, ((b : ℤ) : α) ≤ M) :
    flatSumOf cs oc tc = (oc : α) * topAvgOf cs oc tc + sumα (cs.drop oc) ∧
    (cs.map fun (c : Nat) => min (((c : ℤ) : α)) m).sum ≤ flatSumOf cs oc tc ∧
    flatSumOf cs oc tc ≤ (cs.map fun (c : Nat) => min (((c : ℤ) : α)) M).sum := by
  have hsplit := List.take_append_drop oc cs
  have htl : (cs.take oc).length = oc := by rw [List.length_take]; omega
  have hge : ∀ a ∈ cs.take oc, ∀ b ∈ cs.drop oc, b ≤ a := by
    rw [← hsplit] at hsorted
    exact (List.pairwise_append.mp hsorted).2.2
  -- the outliers are the heavy prefix
  obtain ⟨h1, h2⟩ := flatSumOf_heavy_prefix (α := α) (cs.take oc) (cs.drop oc) oc tc htl.le
    fun a ha => topAvgOf_le _ _ _ _ (hge a ha)
  rw [hsplit, htl, Nat.sub_self] at h1 h2
  rw [flatSumOf_zero, ← h1] at h2
  have havg : ∀ a ∈ cs.take oc, topAvgOf (α := α) cs oc tc ≤ ((a : ℤ) : α) := fun a ha => by
    rw [h1]; exact topAvgOf_le _ _ _ _ (hge a ha)
  have htop : ((cs.drop oc).take tc).length = tc := by rw [List.length_take, List.length_drop]; omega
  obtain ⟨hmA, hAM⟩ : m ≤ topAvgOf (α := α) cs oc tc ∧ topAvgOf (α := α) cs oc tc ≤ M := by
    have := avg_bounds ((cs.drop oc).take tc) m M (List.ne_nil_of_length_pos (by rw [htop]; exact htc)) hm
      fun b hb => hM b (List.mem_of_mem_take hb)
    rwa [htop] at this
  -- both sides as sums over `take oc ++ drop oc`, compared term by term
  have hsum : ∀ f : Nat → α, (cs.map f).sum = ((cs.take oc).map f).sum + ((cs.drop oc).map f).sum := fun f => by
    rw [← List.sum_append, ← List.map_append, hsplit]
  have hconst : (oc : α) * topAvgOf cs oc tc = ((cs.take oc).map fun _ => topAvgOf (α := α) cs oc tc).sum := by
    rw [List.map_const', List.sum_replicate, htl, nsmul_eq_mul]
  refine ⟨h2, ?_, ?_⟩
  · rw [h2, hsum, hconst]
    exact add_le_add (List.sum_le_sum fun c _ => (min_le_right _ _).trans hmA) (List.sum_le_sum fun c _ => min_le_left _ _)
  · rw [h2, hsum, hconst]
    exact add_le_add (List.sum_le_sum fun c hc => le_min (havg c hc) hAM) (List.sum_le_sum fun c hc => le_min le_rfl (hM c hc))

/-- T04.d  rows without an id add `max(u - flattening, 0)`, i.e. between 0 and their number `u`. -/
theorem C04_id_less_rows (E : Env α) (ap : AnonParams α) (bs : UInt64) (sorted : List (UInt64 × Nat)) (un oc tc : Nat) :
    let extra := (flattenCore E ap bs sorted un oc tc).flattenedCount - flatSumOf (sorted.map (·.2)) oc tc
    0 ≤ extra ∧ extra ≤ ((un : ℤ) : α) := by
  rw [flattenCore_eq]
  simp only [add_sub_cancel_left]
  have hnn := flatteningOf_nonneg (α := α) (((sorted.map (·.2)).take oc)) (topAvgOf (sorted.map (·.2)) oc tc)
  exact ⟨le_max_right _ _, max_le (sub_le_self _ hnn) (by positivity)⟩

/-- the part of T04.c that is arithmetic: for fixed `oc ≥ |hd|`, replacing the heaviest entities `hd`
by `hd'` (same ids, any contributions that stay at least as large as every other entity's) changes neither the
flattened count nor the noise scale nor the noise — when every row carries an id (`unaccounted = 0`). -/
theorem flattenCore_heaviest_invariant (E : Env α) (ap : AnonParams α) (bs : UInt64) (hd hd' tl : List (UInt64 × Nat))
    (oc tc : Nat) (hlen : hd.length = hd'.length) (hk : hd.length ≤ oc)
    (hpids : (hd.map (·.1)).Perm (hd'.map (·.1)))
    (hge : ∀ a ∈ hd, ∀ b ∈ tl, b.2 ≤ a.2) (hge' : ∀ a ∈ hd', ∀ b ∈ tl, b.2 ≤ a.2) :
    (flattenCore E ap bs (hd ++ tl) 0 oc tc).flattenedCount = (flattenCore E ap bs (hd' ++ tl) 0 oc tc).flattenedCount ∧
    (flattenCore E ap bs (hd ++ tl) 0 oc tc).noiseSd = (flattenCore E ap bs (hd' ++ tl) 0 oc tc).noiseSd ∧
    (flattenCore E ap bs (hd ++ tl) 0 oc tc).noise = (flattenCore E ap bs (hd' ++ tl) 0 oc tc).noise := by
  -- the top average and the flattened sum depend on the heaviest entities through their number only
  have key : ∀ h : List (UInt64 × Nat), h.length = hd.length → (∀ a ∈ h, ∀ b ∈ tl, b.2 ≤ a.2) →
      topAvgOf (α := α) ((h ++ tl).map (·.2)) oc tc = topAvgOf (tl.map (·.2)) (oc - hd.length) tc ∧
      flatSumOf (α := α) ((h ++ tl).map (·.2)) oc tc =
        (hd.length : α) * topAvgOf (tl.map (·.2)) (oc - hd.length) tc + flatSumOf (tl.map (·.2)) (oc - hd.length) tc := by
    intro h hl hg
    have := flatSumOf_heavy_prefix (α := α) (h.map (·.2)) (tl.map (·.2)) oc tc (by rw [List.length_map, hl]; exact hk)
      fun c hc => topAvgOf_le _ _ _ _ fun x hx => by
        obtain ⟨a, ha, rfl⟩ := List.mem_map.mp hc
        obtain ⟨b, hb, rfl⟩ := List.mem_map.mp hx
        exact hg a ha b hb
    rwa [← List.map_append, List.length_map, hl] at this
  obtain ⟨ha1, ha2⟩ := key hd rfl hge
  obtain ⟨hb1, hb2⟩ := key hd' hlen.symm hge'
  have hxor : xorAll ((hd ++ tl).map (·.1)) = xorAll ((hd' ++ tl).map (·.1)) := by
    apply xorAll_perm; simp only [List.map_append]; exact hpids.append_right _
  have hlen2 : (hd ++ tl).length = (hd' ++ tl).length := by simp [hlen]
  have hfl : ∀ x : α, 0 ≤ x → max ((((0 : ℕ) : ℤ) : α) - x) 0 = 0 := fun x hx =>
    max_eq_right (by rw [Nat.cast_zero, Int.cast_zero, zero_sub]; exact neg_nonpos.mpr hx)
  simp only [flattenCore_eq, hfl _ (flatteningOf_nonneg _ _), ha1, ha2, hb1, hb2, hxor, hlen2, and_self]

end

section
variable {α : Type} [Field α] [LinearOrder α] [IsStrictOrderedRing α] [FloorRing α]

/-- T04.c  When every row carries an entity id, the released count does not change at all if the
`k ≤ outlier.lower` heaviest entities `hd` contribute arbitrarily more rows (`hd'`: same ids, contributions
still at least every other entity's — which is what "more rows" gives on a decreasingly sorted list):
the seeded numbers of outliers and top entities, the flattened count, the noise scale and the noise are
all unchanged. `oi`, `ti` are the compacted intervals (so `oi.upper + ti.upper ≤` number of entities). -/
theorem C04_heaviest_invariance (E : Env α) (ap : AnonParams α) (bs : UInt64) (oi ti : FlatInterval)
    (hd hd' tl : List (UInt64 × Nat)) (hlen : hd.length = hd'.length)
    (hk : (hd.length : Int) ≤ oi.lower) (ho : oi.lower ≤ oi.upper) (ht1 : 1 ≤ ti.lower) (ht : ti.lower ≤ ti.upper)
    (hfit : oi.upper + ti.upper ≤ ((hd ++ tl).length : Int))
    (hpids : (hd.map (·.1)).Perm (hd'.map (·.1)))
    (hge : ∀ a ∈ hd, ∀ b ∈ tl, b.2 ≤ a.2) (hge' : ∀ a ∈ hd', ∀ b ∈ tl, b.2 ≤ a.2) :
    (flattenSorted E ap bs oi ti (hd ++ tl) 0).flattenedCount = (flattenSorted E ap bs oi ti (hd' ++ tl) 0).flattenedCount ∧
    (flattenSorted E ap bs oi ti (hd ++ tl) 0).noiseSd = (flattenSorted E ap bs oi ti (hd' ++ tl) 0).noiseSd ∧
    (flattenSorted E ap bs oi ti (hd ++ tl) 0).noise = (flattenSorted E ap bs oi ti (hd' ++ tl) 0).noise := by
  have hn : hd.length ≤ (oi.upper + ti.upper).toNat := by omega
  have e : ∀ h : List (UInt64 × Nat), h.length = hd.length →
      ((h ++ tl).take (oi.upper + ti.upper).toNat).map (·.1) =
        h.map (·.1) ++ (tl.take ((oi.upper + ti.upper).toNat - hd.length)).map (·.1) := fun h hl => by
    rw [List.take_append, List.take_of_length_le (hl ▸ hn), hl, List.map_append]
  have hseed : xorAll (((hd ++ tl).take (oi.upper + ti.upper).toNat).map (·.1)) =
      xorAll (((hd' ++ tl).take (oi.upper + ti.upper).toNat).map (·.1)) := by
    rw [e hd rfl, e hd' hlen.symm]; exact xorAll_perm (hpids.append_right _)
  unfold flattenSorted
  simp only [hseed]
  set s := saltedSeed E ap.salt (xorAll (((hd' ++ tl).take (oi.upper + ti.upper).toNat).map (·.1)))
  have o1 := (randomUniform_range oi (mixSeed E "outlier" s) ho).1
  exact flattenCore_heaviest_invariant E ap bs hd hd' tl _ _ hlen (by omega) hpids hge hge'

/-- T04.c (unsorted form)  Take any per-entity contribution table `l` (distinct ids, every row attributed). Let the
`k ≤ outlier.lower` entities that head the sorted table contribute any number of additional rows. Then the released
flattened count, the noise scale and the noise are exactly what they were: the extra rows of the heaviest entities
are flattened away completely. (No hypothesis about the shape after re-sorting: `raise_heaviest_shape` proves it.) -/
theorem C04_heaviest_invariance_raise (E : Env α) (ap : AnonParams α) (bs : UInt64) (oi ti : FlatInterval)
    (l : List (UInt64 × Nat)) (hnd : (l.map (·.1)).Nodup) (k : Nat) (f : UInt64 → Nat)
    (hk : (k : Int) ≤ oi.lower) (ho : oi.lower ≤ oi.upper) (ht1 : 1 ≤ ti.lower) (ht : ti.lower ≤ ti.upper)
    (hfit : oi.upper + ti.upper ≤ (l.length : Int)) :
    let l' := l.map (raiseContrib (((sortDesc l).take k).map (·.1)) f)
    (flattenSorted E ap bs oi ti (sortDesc l) 0).flattenedCount = (flattenSorted E ap bs oi ti (sortDesc l') 0).flattenedCount ∧
    (flattenSorted E ap bs oi ti (sortDesc l) 0).noiseSd = (flattenSorted E ap bs oi ti (sortDesc l') 0).noiseSd ∧
    (flattenSorted E ap bs oi ti (sortDesc l) 0).noise = (flattenSorted E ap bs oi ti (sortDesc l') 0).noise := by
  intro l'
  have hsplit : sortDesc l = (sortDesc l).take k ++ (sortDesc l).drop k := (List.take_append_drop k _).symm
  obtain ⟨hd', hs', hlen', hpids, hge'⟩ := raise_heaviest_shape l hnd _ _ hsplit f
  have hlenl : (sortDesc l).length = l.length := (sortDesc_perm l).length_eq
  have hklen : ((sortDesc l).take k).length ≤ k := by simp
  have hsorted := sortDesc_sorted l
  rw [hsplit] at hsorted
  have hge : ∀ a ∈ (sortDesc l).take k, ∀ b ∈ (sortDesc l).drop k, b.2 ≤ a.2 :=
    fun a ha b hb => (List.pairwise_append.mp hsorted).2.2 a ha b hb
  have := C04_heaviest_invariance E ap bs oi ti ((sortDesc l).take k) hd' ((sortDesc l).drop k) hlen'.symm
    (by have : (((sortDesc l).take k).length : Int) ≤ k := by exact_mod_cast hklen
        omega) ho ht1 ht
    (by rw [← hsplit, hlenl]; exact hfit) hpids hge hge'
  rw [← hsplit] at this
  show _ = (flattenSorted E ap bs oi ti (sortDesc l') 0).flattenedCount ∧ _
  rw [show sortDesc l' = hd' ++ (sortDesc l).drop k from hs']
  exact this

end
