import Props.C03
import Props.C18
import SdxProofs.Relabel
import SdxProofs.HarvestRelabel
set_option linter.unusedSectionVars false
/-!
# C05 — Releases are reproducible and consistent across syntheses

The model is a pure function: `Forest.init`, `Forest.tree`, `harvest`, `generateMicrodata`, `solve`, `doStitch` take
(float matrix, hashed ids, column names, parameters, salt, recorded RNG streams) and nothing else, so the *model* is
deterministic by construction; the streams themselves are functions of the constant seed 0 (CPython, trusted).
Determinism of the *implementation* is "implementation = model in every environment" (correspondence + digests).
What is proved here are the facts that make noise independent of positions and orders: the bucket seed depends on the
set of column names and the set of range labels only; the entity seed on the set of ids only; the noise on
(salt, bucket seed, entity seed) only.
-/

section
variable {α : Type} [Field α] [LinearOrder α] [IsStrictOrderedRing α] [FloorRing α]

/-- the per-bucket noise seed does not depend on the order (position) of the columns nor on repeated labels -/
theorem C05_bucket_seed_order_independent (E : Env α) (names names' labels labels' : List String)
    (hn : ∀ s, s ∈ names ↔ s ∈ names') (hl : ∀ s, s ∈ labels ↔ s ∈ labels') :
    hashStrings E names ^^^ hashStrings E labels = hashStrings E names' ^^^ hashStrings E labels' := by
  rw [C03_hashStrings_set E names names' hn, C03_hashStrings_set E labels labels' hl]

/-- the entity-layer seed does not depend on the order in which rows (ids) are seen -/
theorem C05_entity_seed_order_independent {l l' : List UInt64} (h : l.Perm l') : xorAll l = xorAll l' := xorAll_perm h

/-- the two noise layers are a function of the salt, the bucket seed and the entity seed — nothing else
(no clock, no global generator, no position) -/
theorem C05_noise_depends_on_seeds_only (E : Env α) (ap : AnonParams α) (bs seed : UInt64) (c : Int) :
    countSingle E ap bs c seed =
      ScalarOps.roundHE ((c : α) + (ap.noiseSd * E.z (noiseSeed E ap.salt bs) + ap.noiseSd * E.z (noiseSeed E ap.salt seed))) :=
  C03_single_structure E ap bs c seed

end

/-! ## The tree of a set of columns does not depend on the other columns nor on where the columns sit

Stated for the scalar type the model is generic in (so it holds of the `Float` model that is compared with the code, not
only over exact fields). `Agree c c' ρ S`: the two normalised tables agree on the columns `S` up to the renaming `ρ` of
column positions, have the same entity ids, parameters and number of rows; anything else about them may differ. -/

section
variable {α : Type} [Add α] [Sub α] [Mul α] [Div α] [LT α] [LE α] [BEq α]
  [DecidableLT α] [DecidableLE α] [ScalarOps α] [Inhabited α]

/-- T05.b (step)  inserting a row commutes with renaming the columns: same decisions, same splits, same children, same
sub-node look-ups, whatever the other columns hold. -/
theorem C05_add_row_position_independent (E : Env α) (c c' : FCtx α) (ρ : Nat → Nat) (S : List Nat) (h : Agree c c' ρ S)
    (rl : Int) (fuel depth : Nat) (t : Node α) (row : Nat) (hT : CombIn S t) :
    addRow E c' rl fuel depth (Node.relabel ρ t) row = (addRow E c rl fuel depth t row).map (Node.relabel ρ) :=
  (addRow_relabel E h rl fuel depth t row hT).1

/-- T05.b  the whole tree of a column combination over the second table is the tree over the first table with the
column ids renamed — given the same seed (a function of the column names), the same root ranges (a function of the
columns' values) and sub-trees related in the same way. Nothing else about the two tables enters. -/
theorem C05_tree_position_independent (E : Env α) (c c' : FCtx α) (ρ : Nat → Nat) (S : List Nat) (h : Agree c c' ρ S)
    (rl : Int) (comb : List Nat) (hc : ∀ j ∈ comb, j ∈ S) (seed : UInt64) (subs : List (Option (Node α)))
    (snapped : List (Ival α)) :
    buildRows E c' rl (mkLeaf E c' (comb.map ρ) [] seed (subs.map (Option.map (Node.relabel ρ))) snapped 0) =
      (buildRows E c rl (mkLeaf E c comb [] seed subs snapped 0)).map (Node.relabel ρ) := by
  unfold buildRows
  rw [relabel_mkLeaf E h comb [] hc, h.size]
  exact (OptSim.foldlM (fun t i => addRow_relabel E h rl 4000 0 t (i + 1)) _ _ (.leaf _ _ _ hc)).1

/-- T05.b  and the count released for any node of it is the same. -/
theorem C05_count_position_independent (E : Env α) (c c' : FCtx α) (ρ : Nat → Nat) (S : List Nat) (h : Agree c c' ρ S)
    (n : Node α) : (Node.relabel ρ n).noisyCount E c' = n.noisyCount E c :=
  relabel_noisyCount E h n

/-- T05.b (buckets)  the buckets harvested from the tree of a column combination are the same — same ranges, same
counts, same order, same number of random draws, or the same error — over any table that agrees on the columns the tree
and its sub-nodes are built from (`HGood S`), wherever those columns sit (`ρ` injective) and whatever the other columns
hold. `relabCell` only renames the ghost owner of a bucket, which no computation reads and no output shows. -/
theorem C05_harvest_position_independent (E : Env α) (c c' : FCtx α) (ρ : Nat → Nat) (S : List Nat) (h : Agree c c' ρ S)
    (hρ : Function.Injective ρ) (t : Node α) (hg : HGood S t) (stream : List Nat) :
    harvest E c' (Node.relabel ρ t) stream = (harvest E c t stream).map (fun p => (p.1.map (relabCell ρ), p.2)) := by
  unfold harvest
  have hs := (harvest_sim_all E h hρ 100000).1 t hg { stream := stream }
  rw [show HState.relab ρ ({ stream := stream } : HState α) = { stream := stream } by simp [HState.relab]] at hs
  rw [hs]
  cases (harvestNode E c 100000 t).run { stream := stream } with
  | error e => rfl
  | ok p =>
    have e : p.1.map (fun id => (HState.relab ρ p.2).cells[id]!) = (p.1.map (fun id => p.2.cells[id]!)).map (relabCell ρ) := by
      rw [List.map_map]
      exact List.map_congr_left fun id _ => getElem!_map_relab ρ _ id
    show Except.ok ((p.1.map (fun id => (HState.relab ρ p.2).cells[id]!)).filter (fun b => decide (b.count > 0)), p.2.drawn) = _
    rw [e, List.filter_map]
    rfl

/-- … in particular the released ranges and counts are literally equal. -/
theorem C05_buckets_equal (E : Env α) (c c' : FCtx α) (ρ : Nat → Nat) (S : List Nat) (h : Agree c c' ρ S)
    (hρ : Function.Injective ρ) (t : Node α) (hg : HGood S t) (stream : List Nat) (bs : List (BCell α)) (n : Nat)
    (hr : harvest E c t stream = .ok (bs, n)) :
    ∃ bs', harvest E c' (Node.relabel ρ t) stream = .ok (bs', n) ∧
      bs'.map (fun b => (b.ivs, b.count)) = bs.map (fun b => (b.ivs, b.count)) := by
  refine ⟨bs.map (relabCell ρ), ?_, ?_⟩
  · rw [C05_harvest_position_independent E c c' ρ S h hρ t hg stream, hr]; rfl
  · rw [List.map_map]; rfl

end

section
variable {α : Type} [Field α] [LinearOrder α] [IsStrictOrderedRing α] [FloorRing α] [Inhabited α]

/-- T05.b for the trees a forest hands out (over exact arithmetic): any forest tree whose columns lie in `S` meets the
requirement `HGood S` of the position-independence theorems, sub-nodes included. -/
theorem C05_forest_tree_good (E : Env α) (inp : ForestIn α) (F : Forest α) (hinit : Forest.init E inp = .ok F)
    (hn : 0 < inp.raw.size) (fuel : Nat) (comb : List Nat) (hk : 1 ≤ comb.length) (t : Node α)
    (ht : F.tree? E fuel comb = some t) (S : List Nat) (hS : ∀ j ∈ comb, j ∈ S) : HGood S t := by
  obtain ⟨⟨hc, _, hsh⟩, _⟩ := C18_forest_tree E inp F hinit hn fuel comb t hk ht
  exact HGood.of_shape hsh (by rw [hc]; exact hS)

end
