import SdxModel.Salt
/-!
# C06 — Default salt: created once, survives crashes and races

The model is a small-step machine over an abstract directory (see `SdxModel/Salt.lean`); a schedule is *any* list of
events — steps of any process in any interleaving, crashes at any point, I/O failures of any call. Everything below
is by induction over that list: all schedules, any number of processes, any crash points.

That the operating system's `link` is atomic and does not overwrite, that `mkstemp` names are private, and that data
written before `flush` is lost on a crash are the model's assumptions about the file system (trusted base).
Secrecy ("never appears in a table or blob") is not a property of this machine; see the writers' key sets (extraction)
and the byte scans in the harness.
-/

/-- what holds of one process given the state of the published file -/
def ProcOK (file : Option (List UInt8)) (pr : SaltProc) : Prop :=
  pr.candidate.length = 8 ∧
  ((pr.pc = .at 6 ∨ pr.pc = .at 7 ∨ pr.pc = .at 8) → pr.temp = some pr.candidate) ∧
  (pr.pc = .at 11 → file ≠ none) ∧
  (pr.pc = .at 12 → file = some pr.readValue) ∧
  (∀ v, pr.pc = .done (.ok v) → file = some v ∧ 8 ≤ v.length)

/-- the published file is absent or one complete 8-byte salt -/
def FileOK (file : Option (List UInt8)) : Prop := ∀ v, file = some v → v.length = 8

def SaltInv (s : SaltSys) : Prop := FileOK s.file ∧ ∀ pr ∈ s.procs, ProcOK s.file pr

/-- publishing a file keeps `ProcOK` of every process: `ProcOK` only speaks of a file that is there -/
theorem ProcOK.mono {file file' : Option (List UInt8)} {pr : SaltProc} (h : ProcOK file pr)
    (hm : ∀ v, file = some v → file' = some v) : ProcOK file' pr := by
  cases file with
  | some w => rwa [hm w rfl]
  | none =>
    obtain ⟨h1, h2, h3, h4, h5⟩ := h
    exact ⟨h1, h2, fun hp => absurd rfl (h3 hp), fun hp => (nomatch h4 hp), fun v hp => (nomatch (h5 v hp).1)⟩

/-- the locations of which `ProcOK` says something -/
def SaltPc.asserted : SaltPc → Bool
  | .at 6 | .at 7 | .at 8 | .at 11 | .at 12 | .done (.ok _) => true
  | _ => false

theorem ProcOK.of_idle {file : Option (List UInt8)} {pr : SaltProc} (hc : pr.candidate.length = 8)
    (h : pr.pc.asserted = false) : ProcOK file pr := by
  refine ⟨hc, fun h' => ?_, fun h' => ?_, fun h' => ?_, fun v h' => ?_⟩
  · rcases h' with h' | h' | h' <;> rw [h'] at h <;> cases h
  all_goals rw [h'] at h; cases h

/-- one system call keeps the invariant and never changes a published file -/
theorem saltStep_ok (file : Option (List UInt8)) (pr : SaltProc) (hf : FileOK file) (hp : ProcOK file pr) :
    FileOK (saltStep file pr).1 ∧ ProcOK (saltStep file pr).1 (saltStep file pr).2 ∧
    (∀ v, file = some v → (saltStep file pr).1 = some v) := by
  obtain ⟨h1, h2, h3, h4, h5⟩ := hp
  -- one case per line of `saltStep`, in its order (`link`, `open`: two each); `split` is four times as slow
  fun_cases saltStep file pr
  case case1 => cases file <;> exact ⟨hf, .of_idle h1 rfl, fun _ h => h⟩
  -- `flush` puts the candidate into the temporary file; `fsync`, `close` leave it there
  case case6 => exact ⟨hf, ⟨h1, fun _ => rfl, nofun, nofun, nofun⟩, fun _ h => h⟩
  case case7 hpc => exact ⟨hf, ⟨h1, fun _ => h2 (.inl hpc), nofun, nofun, nofun⟩, fun _ h => h⟩
  case case8 hpc => exact ⟨hf, ⟨h1, fun _ => h2 (.inr (.inl hpc)), nofun, nofun, nofun⟩, fun _ h => h⟩
  -- `link` onto an absent file publishes the temporary file
  case case10 hpc =>
    refine ⟨fun v hv => ?_, .of_idle h1 rfl, nofun⟩
    cases (h2 (.inr (.inr hpc))).symm.trans hv; exact h1
  -- `open` has found the file
  case case13 => exact ⟨hf, ⟨h1, nofun, nofun, nofun, nofun⟩, fun _ h => h⟩
  -- `read`
  case case14 hpc =>
    cases file with
    | none => exact absurd rfl (h3 hpc)
    | some w => exact ⟨hf, ⟨h1, nofun, nofun, fun _ => rfl, nofun⟩, fun _ h => h⟩
  -- the length check
  case case15 hpc =>
    split
    · exact ⟨hf, .of_idle h1 rfl, fun _ h => h⟩
    · exact ⟨hf, ⟨h1, nofun, nofun, nofun, fun v h => by cases h; exact ⟨h4 hpc, by omega⟩⟩, fun _ h => h⟩
  case case16 => exact ⟨hf, ⟨h1, h2, h3, h4, h5⟩, fun _ h => h⟩
  all_goals exact ⟨hf, .of_idle h1 rfl, fun _ h => h⟩

theorem saltFail_ok (file : Option (List UInt8)) (pr : SaltProc) (hp : ProcOK file pr) : ProcOK file (saltFail pr) := by
  unfold saltFail
  split
  · exact .of_idle hp.1 rfl
  · exact hp

theorem saltCrash_ok (file : Option (List UInt8)) (pr : SaltProc) (hp : ProcOK file pr) : ProcOK file (saltCrash pr) := by
  unfold saltCrash
  split
  · exact .of_idle hp.1 rfl
  · exact hp

/-- one process replaced, the file kept or published -/
theorem SaltInv.set {s : SaltSys} (h : SaltInv s) (p : Nat) {f : Option (List UInt8)} {pr : SaltProc} (hf : FileOK f)
    (hp : ProcOK f pr) (hm : ∀ v, s.file = some v → f = some v) : SaltInv { file := f, procs := s.procs.set p pr } :=
  ⟨hf, fun _ hq => (List.mem_or_eq_of_mem_set hq).elim (fun hq => (h.2 _ hq).mono hm) (· ▸ hp)⟩

/-- one event (a step, a crash or an I/O failure of any process) keeps the invariant and never changes a published file -/
theorem SaltSys.apply_inv (s : SaltSys) (ev : SaltEv) (h : SaltInv s) :
    SaltInv (s.apply ev) ∧ ∀ v, s.file = some v → (s.apply ev).file = some v := by
  fun_cases SaltSys.apply s ev
  case case2 p pr hpr f pr' hst =>
    obtain ⟨a, b, c⟩ := saltStep_ok s.file pr h.1 (h.2 pr (List.mem_of_getElem? hpr))
    rw [hst] at a b c
    exact ⟨h.set p a b c, c⟩
  case case4 p pr hpr =>
    exact ⟨h.set p h.1 (saltCrash_ok _ _ (h.2 pr (List.mem_of_getElem? hpr))) fun _ hv => hv, fun _ hv => hv⟩
  case case6 p pr hpr =>
    exact ⟨h.set p h.1 (saltFail_ok _ _ (h.2 pr (List.mem_of_getElem? hpr))) fun _ hv => hv, fun _ hv => hv⟩
  all_goals exact ⟨h, fun _ hv => hv⟩

theorem SaltSys.run_inv (s : SaltSys) (evs : List SaltEv) (h : SaltInv s) :
    SaltInv (s.run evs) ∧ ∀ v, s.file = some v → (s.run evs).file = some v :=
  List.foldlRecOn evs SaltSys.apply (motive := fun t => SaltInv t ∧ ∀ v, s.file = some v → t.file = some v)
    ⟨h, fun _ hv => hv⟩ fun t ht ev _ => ⟨(t.apply_inv ev ht.1).1, fun v hv => (t.apply_inv ev ht.1).2 v (ht.2 v hv)⟩

/-- any number of fresh processes, each with its own 8-byte candidate, on a directory whose `salt.bin` is absent or complete -/
def freshSystem (file : Option (List UInt8)) (candidates : List (List UInt8)) : SaltSys :=
  { file := file, procs := candidates.map (fun c => { candidate := c }) }

theorem freshSystem_inv (file : Option (List UInt8)) (candidates : List (List UInt8)) (hf : FileOK file)
    (hc : ∀ c ∈ candidates, c.length = 8) : SaltInv (freshSystem file candidates) := by
  refine ⟨hf, fun pr hpr => ?_⟩
  obtain ⟨c, hcm, rfl⟩ := List.mem_map.mp hpr
  exact .of_idle (hc c hcm) rfl

/-- T06.a  For every schedule of any number of concurrent first uses — every interleaving, crashes and I/O failures
anywhere —: the published file is absent or one complete 8-byte salt; every run that returns, returns exactly the
published salt (so any two returned salts are equal) and never fewer than 8 bytes. -/
theorem C06_all_schedules (file : Option (List UInt8)) (candidates : List (List UInt8)) (hf : FileOK file)
    (hc : ∀ c ∈ candidates, c.length = 8) (evs : List SaltEv) :
    let s := (freshSystem file candidates).run evs
    (∀ v, s.file = some v → v.length = 8) ∧
    (∀ pr ∈ s.procs, ∀ v, pr.pc = .done (.ok v) → s.file = some v ∧ 8 ≤ v.length) ∧
    (∀ p q, p ∈ s.procs → q ∈ s.procs → ∀ v w, p.pc = .done (.ok v) → q.pc = .done (.ok w) → v = w) := by
  obtain ⟨⟨h1, h2⟩, _⟩ := (freshSystem file candidates).run_inv evs (freshSystem_inv file candidates hf hc)
  refine ⟨h1, fun pr hpr => (h2 pr hpr).2.2.2.2, fun p q hp hq v w hv hw => ?_⟩
  exact Option.some.inj (((h2 p hp).2.2.2.2 v hv).1.symm.trans ((h2 q hq).2.2.2.2 w hw).1)

/-- T06.a  once published, the salt never changes: every later event — and hence every later run — sees the same file. -/
theorem C06_published_salt_is_stable (s : SaltSys) (h : SaltInv s) (evs : List SaltEv) (v : List UInt8) (hv : s.file = some v) :
    (s.run evs).file = some v := (s.run_inv evs h).2 v hv

/-- A short or empty `salt.bin` left behind by a legacy crash is never returned: a run on it raises. -/
theorem C06_short_file_rejected (pr : SaltProc) (file : Option (List UInt8)) (v : List UInt8)
    (hpc : pr.pc = .at 12) (hr : pr.readValue = v) (hshort : v.length < 8) :
    (saltStep file pr).2.pc = .done .raised := by
  obtain ⟨pc, c, t, rv⟩ := pr
  subst hpc hr
  exact if_pos hshort

/-- T06.b  an explicitly supplied salt is used verbatim; substitution happens only for the empty salt. -/
theorem C06_explicit_salt_verbatim (given : List UInt8) (d : SaltResult) :
    (given ≠ [] → usedSalt given d = .ok given) ∧ (given = [] → usedSalt given d = d) :=
  ⟨fun h => if_pos h, fun h => if_neg (· h)⟩

/-- Non-vacuity: two processes with 8-byte candidates on an empty directory. -/
example : SaltInv (freshSystem none [[1, 2, 3, 4, 5, 6, 7, 8], [9, 9, 9, 9, 9, 9, 9, 9]]) :=
  freshSystem_inv _ _ (by intro v h; cases h) (by intro c hc; simp at hc; rcases hc with rfl | rfl <;> rfl)
