import Props.C10
import Props.C11
import Props.C12
import Props.C13
import SdxModel.Sample
import SdxModel.Convert
import SdxProofs.CellOrigin
import SdxProofs.ValueMap
import Props.C08
import Props.C07Nulls
import Props.C07Init
import Props.C07Typed
/-!
# C07 — Any supported table synthesizes; schema, dtypes and value domains preserved

The model-level facts the schema clause is assembled from. A well-formed plan introduces every requested column
exactly once (C13), every stitch step returns the union of its inputs' columns (C12), so the final table has exactly
the requested columns; `Synthesizer.sample` then restores the original order from the sorted combination.
Cells: nulls only from the null range (`C11_null_range`), strings are `valueMap[i]` or `prefix*i` (`C11_string_result`).
-/

/-- the columns a plan delivers: the initial cluster plus what each derived cluster introduces -/
def planColumns (c : Clusters) : List Nat := c.initial ++ (c.derivedClusters.map (·.derived)).flatten

/-- a well-formed plan delivers exactly the `n` columns of the table, each once -/
theorem C07_plan_covers_requested_columns (n : Nat) (main : Option Nat) (c : Clusters) (h : WellFormedPlan n main c) :
    (planColumns c).Perm (List.range n) ∧ (planColumns c).Nodup :=
  ⟨h.complete, h.complete.nodup_iff.mpr List.nodup_range⟩

/-! ## The composed `build_table` -/

section
variable {α : Type} [Add α] [Sub α] [Mul α] [Div α] [LT α] [LE α] [BEq α]
  [DecidableLT α] [DecidableLE α] [ScalarOps α] [Inhabited α]

/-- C07 (schema, composed)  whenever the composed `build_table` finishes — any plan, any RNG streams — the assembled table
has exactly the columns of the plan's clusters: a column is present iff it is in the initial cluster or in the stitch or
derived columns of some derived cluster. With a well-formed plan (`C13_solve_wellFormed`,
`C07_plan_covers_requested_columns`) that is every column of the input, once. -/
theorem C07_buildTable_columns (E : Env α) (F : Forest α) (convs : List (Conv α)) (isIntegral : List Bool) (entropy : List α)
    (threshRel : α) (cl : Clusters) (streams : List (List Nat × List (Draw α))) (s s' : List (Draw α))
    (res : MTable (Cell α) α)
    (h : (buildTable E F convs isIntegral entropy threshRel cl streams).run s = .ok (res, s')) :
    ∀ j, j ∈ res.2 ↔ j ∈ cl.initial ∨ ∃ dc ∈ cl.derivedClusters, j ∈ dc.stitch ∨ j ∈ dc.derived := by
  have hM : ∀ {cols strm s1 s2} {r : MTable (Cell α) α}, (materializeGM E F convs cols strm).run s1 = .ok (r, s2) → ∀ j, j ∈ r.2 ↔ j ∈ cols :=
    fun hm j => by rw [(materializeGM_tree E F convs _ _ _ _ _ hm).1, (sortAscStable_perm _ _).mem_iff]
  refine buildTable_induct E F convs isIntegral entropy threshRel cl streams s s' res
    (fun done acc => ∀ j, j ∈ acc.2 ↔ j ∈ cl.initial ∨ ∃ dc ∈ done, j ∈ dc.stitch ∨ j ∈ dc.derived)
    (fun acc s0 h0 j => by simp [hM h0 j]) (fun dc _ done acc right st s1 s2 r hacc hm hcols _ j => ?_) h
  rw [hcols, C12_columns_union, hacc j, hM hm j]
  simp only [List.mem_append, List.mem_singleton, or_and_right, exists_or, exists_eq_left, or_assoc]

end

/-- C07 (schema, `NoClustering` and `SingleClustering`): under the plans these strategies build for a table of `n ≥ 1` columns the assembled
table has exactly the columns `0 .. n-1`. -/
theorem C07_simple_plans_schema {α : Type} [Add α] [Sub α] [Mul α] [Div α] [LT α] [LE α] [BEq α]
    [DecidableLT α] [DecidableLE α] [ScalarOps α] [Inhabited α]
    (E : Env α) (F : Forest α) (convs : List (Conv α)) (isIntegral : List Bool) (entropy : List α)
    (threshRel : α) (n : Nat) (hn : 1 ≤ n) (cl : Clusters) (hcl : cl = noClusteringPlan n ∨ cl = singleClusteringPlan n)
    (streams : List (List Nat × List (Draw α))) (s s' : List (Draw α)) (res : MTable (Cell α) α)
    (h : (buildTable E F convs isIntegral entropy threshRel cl streams).run s = .ok (res, s')) :
    ∀ j, j ∈ res.2 ↔ j < n := by
  intro j
  rw [C07_buildTable_columns E F convs isIntegral entropy threshRel cl streams s s' res h j]
  rcases hcl with rfl | rfl
  · simp only [noClusteringPlan, List.mem_singleton, List.mem_map, List.mem_range]
    constructor
    · rintro (rfl | ⟨dc, ⟨i, hi, rfl⟩, hj⟩)
      · omega
      · simp only [List.not_mem_nil, List.mem_singleton, false_or] at hj
        omega
    · intro hj
      by_cases h0 : j = 0
      · exact Or.inl h0
      · exact Or.inr ⟨⟨.shared, [], [j - 1 + 1]⟩, ⟨j - 1, by omega, rfl⟩, Or.inr (by simp; omega)⟩
  · simp [singleClusteringPlan]

/-- the columns a well-formed plan mentions anywhere (initial, stitch or derived) are exactly the table's columns -/
theorem wellFormed_columns (n : Nat) (main : Option Nat) (c : Clusters) (h : WellFormedPlan n main c) (j : Nat) :
    (j ∈ c.initial ∨ ∃ dc ∈ c.derivedClusters, j ∈ dc.stitch ∨ j ∈ dc.derived) ↔ j < n := by
  have hmem : (j ∈ c.initial ∨ ∃ d ∈ c.derivedClusters, j ∈ d.derived) ↔ j < n := by
    rw [← List.mem_range, ← h.complete.mem_iff]
    simp only [List.mem_append, List.mem_flatten, List.mem_map, exists_exists_and_eq_and]
  refine ⟨?_, fun hj => (hmem.mpr hj).imp_right fun ⟨d, hd, h1⟩ => ⟨d, hd, Or.inr h1⟩⟩
  rintro (h1 | ⟨dc, hdc, h2 | h2⟩)
  · exact hmem.mp (Or.inl h1)
  · exact hmem.mp (h.derived_ok.stitch_mem dc hdc j h2)
  · exact hmem.mp (Or.inr ⟨dc, hdc, h2⟩)

/-- a plan searched on the measures of a forest with the table's columns, executed by `build_table` on the full forest: the plan is
well-formed and the assembled table has exactly the table's columns -/
theorem solved_plan_schema (E : Env Float) (F Fs : Forest Float) (hnames : Fs.names.length = F.names.length) (convs : List (Conv Float))
    (isIntegral : List Bool) (main : Option Nat) (mw th alpha : Float) (entropy : List Float) (threshRel : Float)
    (streams : List (List Nat × List (Draw Float))) (p p' s s' : List (Draw Float)) (cl : Clusters) (res : MTable (Cell Float) Float)
    (hn : 0 < F.names.length) (hmain : ∀ m, main = some m → m < F.names.length)
    (hsolve : (solve (clusteringContext E Fs main) mw th alpha).run p = .ok (cl, p'))
    (hbuild : (buildTable E F convs isIntegral entropy threshRel cl streams).run s = .ok (res, s')) :
    WellFormedPlan F.names.length main cl ∧ ∀ j, j ∈ res.2 ↔ j < F.names.length := by
  have hnum : (clusteringContext E Fs main).numColumns = F.names.length := by
    simp [clusteringContext, ClusteringContext.numColumns, hnames]
  have hwf : WellFormedPlan F.names.length main cl :=
    hnum ▸ C13_solve_wellFormed (clusteringContext E Fs main) mw th alpha p p' cl (hnum ▸ hn) (hnum ▸ hmain) hsolve
  exact ⟨hwf, fun j => (C07_buildTable_columns E F convs isIntegral _ _ cl streams s s' res hbuild j).trans
    (wellFormed_columns _ _ _ hwf j)⟩

/-- C07 (schema, whole default-strategy synthesis in the model): whenever `sampleDefault` finishes — measures, plan
search, materialisation and stitching, for every forest, parameter set, main column and RNG streams — the assembled
table has exactly the input's columns `0 .. n-1` (sorted, which `sample()` then maps back to the input order). -/
theorem C07_sampleDefault_schema (E : Env Float) (F : Forest Float) (convs : List (Conv Float)) (isIntegral : List Bool)
    (main : Option Nat) (mw th alpha : Float) (streams : List (List Nat × List (Draw Float))) (s s' : List (Draw Float))
    (cl : Clusters) (res : MTable (Cell Float) Float) (hn : 0 < F.names.length)
    (hmain : ∀ m, main = some m → m < F.names.length)
    (h : (sampleDefault E F convs isIntegral main mw th alpha streams).run s = .ok ((cl, res), s')) :
    WellFormedPlan F.names.length main cl ∧ ∀ j, j ∈ res.2 ↔ j < F.names.length := by
  unfold sampleDefault at h
  obtain ⟨cl', s1, h1, h⟩ := StateT_bind_ok h
  obtain ⟨t, s2, h2, h⟩ := StateT_bind_ok h
  cases (StateT_pure_ok h).1
  exact solved_plan_schema E F F rfl convs isIntegral main mw th alpha _ _ streams s s1 s1 s2 cl res hn hmain h1 h2

/-- C07 (schema, default-strategy synthesis with sub-sampling, `clustering/sampling.py` included): whenever `sampleDefaultSampled`
finishes — whether or not `should_sample` asks for a row sample, whichever rows are picked, whatever the sample size, the parameters and
every RNG stream — the plan is well-formed for the table's columns and the assembled table has exactly the input's columns. The plan is
searched on the *sampled* forest and executed on the full one: both have the input's columns (`forest_init_names`). -/
theorem C07_sampleDefaultSampled_schema (E : Env Float) (inp : ForestIn Float) (F : Forest Float) (hinit : Forest.init E inp = .ok F)
    (convs : List (Conv Float)) (isIntegral : List Bool) (main : Option Nat) (sampleSize : Nat) (mw th alpha : Float)
    (picked : List Nat) (planStream : List (Draw Float)) (streams : List (List Nat × List (Draw Float))) (s s' : List (Draw Float))
    (cl : Clusters) (res : MTable (Cell Float) Float) (hn : 0 < F.names.length)
    (hmain : ∀ m, main = some m → m < F.names.length)
    (h : (sampleDefaultSampled E inp F convs isIntegral main sampleSize mw th alpha picked planStream streams).run s = .ok ((cl, res), s')) :
    WellFormedPlan F.names.length main cl ∧ ∀ j, j ∈ res.2 ↔ j < F.names.length := by
  unfold sampleDefaultSampled at h
  split_ifs at h with hs hv
  · obtain ⟨u, s1, _, h⟩ := StateT_bind_ok h
    split at h
    · cases h
    · rename_i Fs hFs
      split at h
      · cases h
      · rename_i cl' rest hsolve
        obtain ⟨t, s2, h2, h⟩ := StateT_bind_ok h
        cases (StateT_pure_ok h).1
        exact solved_plan_schema E F Fs (by rw [forest_init_names E _ Fs hFs, forest_init_names E inp F hinit]; rfl) convs isIntegral
          main mw th alpha _ _ streams planStream rest s1 s2 cl res hn hmain hsolve h2
  · obtain ⟨u, s1, _, h⟩ := StateT_bind_ok h
    cases h
  · exact C07_sampleDefault_schema E F convs isIntegral main mw th alpha streams s s' cl res hn hmain h

/-- `should_sample`: a table is sub-sampled only if it has more rows than the sample size, and never with three columns or fewer -/
theorem shouldSample_spec (dims numRows sampleSize : Nat) (h : shouldSample dims numRows sampleSize = true) :
    sampleSize < numRows ∧ (1 ≤ sampleSize → 4 ≤ dims) := by
  unfold shouldSample at h
  split_ifs at h with h1
  simp only [decide_eq_true_eq] at h
  refine ⟨by omega, fun hs => ?_⟩
  -- with at most three columns the full pass `3·d·n/2`, doubled, already costs what `d²·n` does
  by_contra hd
  have h3 : dims * dims * numRows ≤ 3 * (numRows * dims) := by
    rw [Nat.mul_assoc, Nat.mul_comm numRows dims]
    exact Nat.mul_le_mul_right _ (by omega)
  rcases Nat.eq_zero_or_pos dims with rfl | hpos
  · simp at h
  · have : 1 ≤ dims * dims * sampleSize := Nat.mul_pos (Nat.mul_pos hpos hpos) hs
    omega

/-- Non-vacuity: 100 rows and 5 columns are sub-sampled at sample size 10, not at 20; a valid pick of 3 of 5 rows. -/
example : shouldSample 5 100 10 = true ∧ shouldSample 5 100 20 = false ∧ validPick 5 3 [4, 0, 2] = true ∧ validPick 5 3 [4, 0, 4] = false := by
  decide

/-! ## Value domains of the cells (one cluster, from the typed table) -/

section
variable {α : Type} [Field α] [LinearOrder α] [IsStrictOrderedRing α] [FloorRing α] [Inhabited α]

/-- what a cell of a column can be, by the column's convertor: a null, or a value of the column's own kind; a string is one of the
strings of the value map or a mask `prefix*index` -/
def CellFits (cv : Conv α) (cell : Cell α) : Prop :=
  cell = .null ∨
  match cv with
  | .bool => ∃ b, cell = .bool b
  | .real _ _ _ => ∃ x, cell = .real x
  | .int _ _ => ∃ i, cell = .int i
  | .timestamp _ _ => ∃ t, cell = .ts t
  | .string vm _ => ∃ str, cell = .str str ∧ ((∃ pre v, str = pre ++ "*" ++ toString (v : Nat)) ∨ str ∈ vm)

/-- `_generate` yields a null or a value of the convertor's kind, for every range and RNG state -/
theorem C07_cell_fits (E : Env α) (cv : Conv α) (nm : α) (iv : Ival α) (s s' : List (Draw α)) (cell : Cell α) (f : α)
    (h : (generateCell E cv nm iv).run s = .ok ((cell, f), s')) : CellFits cv cell := by
  rcases generateCell_ok E cv nm iv s s' _ h with ⟨_, hc⟩ | ⟨_, h⟩
  · exact Or.inl (congrArg Prod.fst hc)
  · exact Or.inr (fromInterval_kind E cv iv s s' cell f h)

/-- what a cell of a column of the input table can be: a null, or a value of the column's type; in a string column an input string or a mask -/
def ColFits : RawCol α → Cell α → Prop
  | .bool _, cell => cell = .null ∨ ∃ b, cell = .bool b
  | .int _, cell => cell = .null ∨ ∃ i, cell = .int i
  | .real _, cell => cell = .null ∨ ∃ x, cell = .real x
  | .ts _, cell => cell = .null ∨ ∃ t, cell = .ts t
  | .str v, cell => cell = .null ∨ ∃ str, cell = .str str ∧ ((∃ pre k, str = pre ++ "*" ++ toString (k : Nat)) ∨ some str ∈ v)

/-- a cell that fits the convertor `materialize_tree` uses for a column fits the column -/
theorem colFits_of_fitted (E : Env α) (F : Forest α) (cols : List (RawCol α)) (nrows : Nat) (j : Nat) (hj : j < cols.length) (cell : Cell α)
    (h : CellFits ((analyzeConvertors E F (fitTable E cols nrows).1).getD j .bool) cell) : ColFits cols[j] cell := by
  have hget : (fitTable E cols nrows).1.getD j .bool = (fitColumn E cols[j]).1 := by simp [fitTable, hj]
  rw [analyzeConvertors_getD, hget] at h
  cases hc : cols[j] with
  | str v =>
    rw [hc] at h
    rcases h with h0 | ⟨str, h1, h2⟩
    · exact Or.inl h0
    · exact Or.inr ⟨str, h1, h2.imp_right (mem_valueMapOf v str).mp⟩
  | _ => rw [hc] at h; exact h

/-- the rows of a microtable, for any column combination of a forest: one cell per column of the combination, and the cell standing
for column `comb[k]` fits that column's convertor -/
theorem materializeTree_fits (E : Env α) (inp : ForestIn α) (F : Forest α) (hinit : Forest.init E inp = .ok F)
    (hn : 0 < inp.raw.size) (hlt : 0 ≤ F.ctx.ap.supp.lt) (convs : List (Conv α)) (comb : List Nat) (hk : 1 ≤ comb.length)
    (hstream : List Nat) (mstream : List (Draw α)) (rows : List (List (Cell α × α))) (drawn left : Nat)
    (h : materializeTree E F convs comb hstream mstream = .ok (rows, drawn, left)) :
    TableOK (fun j cell => CellFits ((analyzeConvertors E F convs).getD j .bool) cell.1) (rows, comb) := by
  obtain ⟨t, bs, ht, hh, hrows⟩ := materializeTree_cells E inp F hinit hn hlt convs comb hk hstream mstream rows drawn left h
  intro row hrow
  obtain ⟨hlen, b, hb, hbl, hcells⟩ := hrows row hrow
  refine ⟨hlen, fun k hk' => ?_⟩
  obtain ⟨s, s', hrun⟩ := hcells k hk'
  exact C07_cell_fits E _ _ _ s s' _ _ hrun

/-- **C07, value domains, from the typed input table (one cluster).**  Every row `Synthesizer(df, SingleClustering()).sample()` generates in the
model has one cell per input column, and the cell of a column is a null or a value of that column's type — a boolean, an integer, a real, a
timestamp; in a string column an input string of that column or a mask `prefix*index`. -/
theorem C07_synthesize_single_domains (E : Env α) (cols : List (RawCol α)) (nrows : Nat) (names : List String)
    (pids : Array (List UInt64)) (ap : AnonParams α) (bp : BucketParams) (kind : CounterKind)
    (hn : 0 < nrows) (hc : 1 ≤ cols.length) (hlt : 0 ≤ ap.supp.lt)
    (hstream : List Nat) (mstream : List (Draw α)) (rows : List (List (Cell α × α))) (drawn left : Nat)
    (h : synthesizeSingle E cols nrows names pids ap bp kind hstream mstream = .ok (rows, drawn, left)) :
    ∀ row ∈ rows, row.length = cols.length ∧ ∀ (j : Nat) (hj : j < cols.length) (hr : j < row.length), ColFits cols[j] row[j].1 := by
  obtain ⟨F, hinit, hm⟩ := synthesizeSingle_ok h
  have hT := materializeTree_fits E _ F hinit (by simpa only [fitTable_size] using hn)
    (by rw [(forest_init_ctx E _ F hinit).2.1]; exact hlt) _ _ (by simpa using hc) hstream mstream rows drawn left hm
  intro row hrow
  obtain ⟨hlen, hcells⟩ := hT row hrow
  simp only [List.length_range] at hlen hcells
  refine ⟨hlen, fun j hj hr => ?_⟩
  have := colFits_of_fitted E F cols nrows j hj _ (by simpa using hcells j hj)
  simpa [List.getD_eq_getElem?_getD, hr] using this

/-- **C07, value domains through `build_table` (any cluster plan).**  Whatever plan `build_table` is given — initial cluster, stitched
and patched derived clusters, both ownership modes — and whatever the RNG streams, every row of the assembled table has one cell
per column of the table, and the cell standing for column `j` is a null or a value of the kind of column `j`'s convertor (for a string
column: a string of its value map or a mask `prefix*index`): stitching and patching only move cells, each under its own column
(`buildTable_ok`), and every microtable is well-typed (`materializeTree_fits`). Clusters are non-empty (`WellFormedPlan`). -/
theorem C07_table_domains (E : Env α) (inp : ForestIn α) (F : Forest α) (hinit : Forest.init E inp = .ok F)
    (hn : 0 < inp.raw.size) (hlt : 0 ≤ F.ctx.ap.supp.lt) (convs : List (Conv α))
    (isIntegral : List Bool) (entropy : List α) (threshRel : α) (cl : Clusters)
    (hini : 1 ≤ cl.initial.length) (hder : ∀ dc ∈ cl.derivedClusters, 1 ≤ dc.derived.length)
    (streams : List (List Nat × List (Draw α))) (s s' : List (Draw α)) (res : MTable (Cell α) α)
    (h : (buildTable E F convs isIntegral entropy threshRel cl streams).run s = .ok (res, s')) :
    ∀ row ∈ res.1, row.length = res.2.length ∧
      ∀ (k : Nat) (hk : k < res.2.length), CellFits ((analyzeConvertors E F convs).getD res.2[k] .bool) (row.getD k default).1 := by
  exact buildTable_cells E F convs isIntegral entropy threshRel cl streams s s' res _ hini hder
    (.of_tree E F convs _ fun comb hk => materializeTree_fits E inp F hinit hn hlt convs comb hk) h

/-- **C07, value domains, from the typed input table, any cluster plan.**  Whatever plan over the table's columns `sample()` executes —
`NoClustering`, `SingleClustering`, the plans of the default and of the ML strategy, stitched or patched, either ownership — every row of
the synthetic table has one cell per column of the table, and the cell standing for input column `j` is a null or a value of that column's
type: a boolean, an integer, a real, a timestamp; in a string column an input string of that very column or a mask `prefix*index`. -/
theorem C07_synthesize_plan_domains (E : Env α) (cols : List (RawCol α)) (nrows : Nat) (names : List String)
    (pids : Array (List UInt64)) (ap : AnonParams α) (bp : BucketParams) (kind : CounterKind)
    (hn : 0 < nrows) (hlt : 0 ≤ ap.supp.lt)
    (isIntegral : List Bool) (entropy : List α) (threshRel : α) (cl : Clusters)
    (hini : 1 ≤ cl.initial.length) (hder : ∀ dc ∈ cl.derivedClusters, 1 ≤ dc.derived.length)
    (hcols : ∀ j, (j ∈ cl.initial ∨ ∃ dc ∈ cl.derivedClusters, j ∈ dc.stitch ∨ j ∈ dc.derived) → j < cols.length)
    (streams : List (List Nat × List (Draw α))) (s s' : List (Draw α)) (res : MTable (Cell α) α)
    (h : (synthesizePlan E cols nrows names pids ap bp kind isIntegral entropy threshRel cl streams).run s = .ok (res, s')) :
    ∀ row ∈ res.1, row.length = res.2.length ∧
      ∀ (k : Nat) (hk : k < res.2.length), ∃ hj : res.2[k] < cols.length, ColFits cols[res.2[k]] (row.getD k default).1 := by
  obtain ⟨F, hinit, hb⟩ := synthesizePlan_ok h
  have hdom := C07_table_domains E _ F hinit (by simpa only [fitTable_size] using hn)
    (by rw [(forest_init_ctx E _ F hinit).2.1]; exact hlt) _ isIntegral entropy threshRel cl hini hder streams s s' res hb
  have hmem := C07_buildTable_columns E F _ isIntegral entropy threshRel cl streams s s' res hb
  intro row hrow
  obtain ⟨hlen, hcells⟩ := hdom row hrow
  refine ⟨hlen, fun k hk => ?_⟩
  have hj : res.2[k] < cols.length := hcols _ ((hmem _).mp (List.getElem_mem hk))
  exact ⟨hj, colFits_of_fitted E F cols nrows _ hj _ (hcells k hk)⟩

/-- **C07, "nulls occur only in columns that had nulls", `Synthesizer(df, NoClustering()).sample()` from the typed input table.**  Convertors
fitted, the table normalised, the forest built, every column's microtable patched together: in the place of an input column that has no
null (`TypedNoNull`) the synthetic table never has a null — whatever the column types and values, the other columns, the entity ids,
the salt, the parameters and every RNG stream. -/
theorem C07_synthesize_noClustering_no_nulls (E : Env α) (cols : List (RawCol α)) (nrows : Nat) (names : List String)
    (pids : Array (List UInt64)) (ap : AnonParams α) (bp : BucketParams) (kind : CounterKind)
    (hn : 0 < nrows) (hnames : names.length = cols.length) (hlt : 0 ≤ ap.supp.lt)
    (isIntegral : List Bool) (entropy : List α) (threshRel : α)
    (streams : List (List Nat × List (Draw α))) (s s' : List (Draw α)) (res : MTable (Cell α) α)
    (h : (synthesizePlan E cols nrows names pids ap bp kind isIntegral entropy threshRel (noClusteringPlan cols.length) streams).run s = .ok (res, s')) :
    ∀ row ∈ res.1, row.length = res.2.length ∧
      ∀ (k : Nat) (hk : k < res.2.length) (hj : res.2[k] < cols.length), TypedNoNull cols[res.2[k]] nrows →
        (row.getD k default).1 ≠ .null := by
  obtain ⟨F, hinit, hb⟩ := synthesizePlan_ok h
  have hmain := C07_noClustering_no_nulls E _ F hinit (by simpa only [fitTable_size] using hn)
    (by rw [(forest_init_ctx E _ F hinit).2.1]; exact hlt) _ isIntegral entropy threshRel streams s s' res (by simpa only [hnames] using hb)
  intro row hrow
  obtain ⟨hlen, hcells⟩ := hmain row hrow
  refine ⟨hlen, fun k hk hj hnn => hcells k hk ⟨by simpa only [hnames] using hj, fun r hr => ?_⟩⟩
  obtain ⟨v, hv, hv0⟩ := fitColumn_no_null E cols[res.2[k]] nrows hnn r (by simpa only [fitTable_size] using hr)
  exact ⟨v, by rw [fitTable_cell E cols nrows r _ hr hj, hv], hv0⟩

end
