import SdxProofs.ForestLemmas
import Props.C17
set_option linter.unusedSectionVars false
set_option linter.unusedVariables false
/-!
# What `Forest.__init__` establishes for a column without nulls

For a column of the normalised table that holds no null and only non-negative values (what `apply_convertors` produces: min-max scaled
numbers, string codes, 0/1), the null stand-in lies strictly above every value and the column's snapped range holds every value —
the hypotheses `H1`, `H2` of `C07_no_nulls_single_column` / `C07_no_nulls_partial`.
-/

section
variable {α : Type} [Field α] [LinearOrder α] [IsStrictOrderedRing α] [FloorRing α] [Inhabited α]

theorem ite_lt_eq_min (x m : α) : (if x < m then x else m) = min m x := by
  rcases lt_or_ge x m with h | h
  · rw [if_pos h, min_eq_right h.le]
  · rw [if_neg h.not_gt, min_eq_left h]

theorem ite_lt_eq_max (x m : α) : (if m < x then x else m) = max m x := by
  rcases lt_or_ge m x with h | h
  · rw [if_pos h, max_eq_right h.le]
  · rw [if_neg h.not_gt, max_eq_left h]

theorem foldHull_spec (vs : List α) : ∀ (iv : Ival α), iv.lo ≤ iv.hi →
    let r := vs.foldl (fun iv x => (⟨if x < iv.lo then x else iv.lo, if iv.hi < x then x else iv.hi⟩ : Ival α)) iv
    r.lo ≤ iv.lo ∧ iv.hi ≤ r.hi ∧ r.lo ≤ r.hi ∧ (∀ x ∈ vs, r.lo ≤ x ∧ x ≤ r.hi) ∧
      (∀ b, b ≤ iv.lo → (∀ x ∈ vs, b ≤ x) → b ≤ r.lo) := by
  induction vs with
  | nil => intro iv h; simp [h]
  | cons x xs ih =>
    intro iv h
    simp only [List.foldl_cons, ite_lt_eq_min, ite_lt_eq_max]
    obtain ⟨h1, h2, h3, h4, h5⟩ := ih ⟨min iv.lo x, max iv.hi x⟩ ((min_le_left _ _).trans (h.trans (le_max_left _ _)))
    simp only [ite_lt_eq_min, ite_lt_eq_max] at h1 h2 h3 h4 h5
    refine ⟨h1.trans (min_le_left _ _), (le_max_left _ _).trans h2, h3, fun y hy => ?_,
      fun b hb hall => h5 b (le_min hb (hall x (List.mem_cons_self ..))) fun y hy => hall y (List.mem_cons_of_mem _ hy)⟩
    rcases List.mem_cons.mp hy with rfl | hy
    · exact ⟨h1.trans (min_le_right _ _), (le_max_right _ _).trans h2⟩
    · exact h4 y hy

/-- the non-null values of column `j` -/
def columnVals (raw : Array (Array (Option α))) (j : Nat) : List α := raw.toList.filterMap (fun r => (r[j]?).join)

/-- `_dimension_interval`: a proper interval holding every non-null value of the column; non-negative when the values are -/
theorem columnHull_spec (raw : Array (Array (Option α))) (j : Nat) :
    (columnHull raw j).lo ≤ (columnHull raw j).hi ∧
    (∀ v ∈ columnVals raw j, (columnHull raw j).lo ≤ v ∧ v ≤ (columnHull raw j).hi) ∧
    ((∀ v ∈ columnVals raw j, 0 ≤ v) → 0 ≤ (columnHull raw j).lo) := by
  unfold columnHull columnVals
  simp only
  cases hv : raw.toList.filterMap (fun r => (r[j]?).join) with
  | nil => simp
  | cons v vs =>
    simp only
    obtain ⟨h1, h2, h3, h4, h5⟩ := foldHull_spec vs ⟨v, v⟩ le_rfl
    simp only at h1 h2 h3 h4 h5
    refine ⟨h3, ?_, ?_⟩
    · intro x hx
      rcases List.mem_cons.mp hx with rfl | hx
      · exact ⟨h1, h2⟩
      · exact h4 x hx
    · intro hall
      exact h5 0 (hall v (List.mem_cons_self ..)) (fun y hy => hall y (List.mem_cons_of_mem _ hy))

/-- the stand-in of a non-negative column lies strictly above the column's range -/
theorem nullMapping_above (h : Ival α) (h0 : 0 ≤ h.lo) (hle : h.lo ≤ h.hi) : h.hi < nullMapping h := by
  unfold nullMapping
  simp only [ofInt_eq, Int.cast_zero, Int.cast_one, Int.cast_ofNat]
  split_ifs with h1 h2
  · exact lt_two_mul_self h1
  · exact absurd h0 (not_le.mpr h2)
  · exact lt_of_le_of_lt (not_lt.mp h1) zero_lt_one

theorem expand_contains (h : Ival α) (v : α) (hle : h.lo ≤ h.hi) :
    (h.expand v).lo ≤ h.lo ∧ h.hi ≤ (h.expand v).hi ∧ (h.expand v).lo ≤ (h.expand v).hi := by
  unfold Ival.expand
  split_ifs with h1 h2
  · exact ⟨le_rfl, le_of_lt h1, le_trans hle (le_of_lt h1)⟩
  · exact ⟨le_of_lt h2, le_rfl, le_trans (le_of_lt h2) hle⟩
  · exact ⟨le_rfl, le_rfl, hle⟩

/-- what `Forest.__init__` computes per column: the stand-ins, the table with nulls replaced, the snapped ranges -/
theorem forest_init_columns (E : Env α) (inp : ForestIn α) (F : Forest α) (h : Forest.init E inp = .ok F) :
    F.nullMaps = (List.range inp.names.length).map (fun j => nullMapping (columnHull inp.raw j)) ∧
    F.ctx.data = forestData inp.raw inp.names.length F.nullMaps ∧
    ∀ j < inp.names.length,
      snapFuel 64 ((columnHull inp.raw j).expand (nullMapping (columnHull inp.raw j))) = some (F.rootSnapped0.getD j default) := by
  obtain ⟨_, hnm, hctx, hs0, _, _⟩ := forest_init_ok E inp F h
  obtain ⟨hl, hs0⟩ := forall₂_range hs0
  refine ⟨hnm, by rw [hctx], fun j hj => ?_⟩
  rw [← hl] at hj
  simpa [List.getD_eq_getElem?_getD, hj] using hs0 j hj

/-- the value the trees see for a non-null cell is the cell's value -/
theorem forestData_value (raw : Array (Array (Option α))) (ncols : Nat) (nullMaps : List α) (r j : Nat) (hr : r < raw.size)
    (hj : j < ncols) (v : α) (hv : (raw[r][j]?).join = some v) :
    ((forestData raw ncols nullMaps)[r]!)[j]! = v := by
  simp [forestData, hr, hj, hv]

/-- **what `Forest.__init__` establishes for a column without nulls and with non-negative values** (every column of a normalised table
that had no null): the stand-in lies strictly above every value the trees see, and the column's snapped range holds every value. -/
theorem forest_column_without_nulls (E : Env α) (inp : ForestIn α) (F : Forest α) (h : Forest.init E inp = .ok F) (j : Nat)
    (hj : j < inp.names.length)
    (hcol : ∀ (r : Nat) (hr : r < inp.raw.size), ∃ v, (inp.raw[r][j]?).join = some v ∧ 0 ≤ v) :
    (∀ r < F.ctx.data.size, F.ctx.value r j < F.nullMaps.getD j (ofInt 0)) ∧
    (∀ r < F.ctx.data.size, (F.rootSnapped0.getD j default).lo ≤ F.ctx.value r j ∧
      F.ctx.value r j ≤ (F.rootSnapped0.getD j default).hi) := by
  obtain ⟨hnm, hdata, hsnap⟩ := forest_init_columns E inp F h
  obtain ⟨_, _, _, hsize, _, _⟩ := forest_init_trees1 E inp F h
  obtain ⟨hle, hin, hnonneg⟩ := columnHull_spec inp.raw j
  have hvals : ∀ (r : Nat) (hr : r < inp.raw.size) (v : α), (inp.raw[r][j]?).join = some v → v ∈ columnVals inp.raw j := by
    intro r hr v hv
    unfold columnVals
    exact List.mem_filterMap.mpr ⟨inp.raw[r], by simp, hv⟩
  have h0 : 0 ≤ (columnHull inp.raw j).lo := by
    apply hnonneg
    intro v hv
    obtain ⟨row, hrow, hvr⟩ := List.mem_filterMap.mp hv
    obtain ⟨r, hr, rfl⟩ := List.mem_iff_getElem.mp hrow
    have hr' : r < inp.raw.size := by simpa using hr
    obtain ⟨v', hv', hv0⟩ := hcol r hr'
    have : inp.raw.toList[r] = inp.raw[r] := by simp
    rw [this, hv'] at hvr
    cases hvr
    exact hv0
  have hnull : F.nullMaps.getD j (ofInt 0) = nullMapping (columnHull inp.raw j) := by
    rw [hnm]; simp [List.getD_eq_getElem?_getD, hj]
  have habove := nullMapping_above (columnHull inp.raw j) h0 hle
  obtain ⟨e1, e2, e3⟩ := expand_contains (columnHull inp.raw j) (nullMapping (columnHull inp.raw j)) hle
  have hsn := hsnap j hj
  rw [show (64 : Nat) = 62 + 2 from rfl, C17_snap_fuel_irrelevant _ e3 62] at hsn
  obtain ⟨s, hs, hspec⟩ := C17_snap_spec _ e3
  rw [hs] at hsn
  have hs_eq : s = F.rootSnapped0.getD j default := Option.some.inj hsn
  have value_eq : ∀ r (hr : r < inp.raw.size), ∃ v, F.ctx.value r j = v ∧ v ∈ columnVals inp.raw j := by
    intro r hr
    obtain ⟨v, hv, _⟩ := hcol r hr
    refine ⟨v, ?_, hvals r hr v hv⟩
    unfold FCtx.value
    rw [hdata]
    exact forestData_value inp.raw _ _ r j hr hj v hv
  constructor
  · intro r hr
    obtain ⟨v, hv, hmem⟩ := value_eq r (by rw [← hsize]; exact hr)
    rw [hv, hnull]
    exact lt_of_le_of_lt (hin v hmem).2 habove
  · intro r hr
    obtain ⟨v, hv, hmem⟩ := value_eq r (by rw [← hsize]; exact hr)
    rw [hv, ← hs_eq]
    exact ⟨le_trans hspec.1 (le_trans e1 (hin v hmem).1), le_trans (hin v hmem).2 (le_trans e2 hspec.2.1)⟩

end
