import SdxProofs.InForest
import SdxProofs.Materialize
import SdxProofs.BuildTable
import Props.C07Init
set_option linter.unusedSectionVars false
set_option linter.unusedVariables false
/-!
# C07 — "nulls occur only in columns that had nulls" (partial)

A cell is a null exactly when the lower end of its range is the column's null stand-in (`_generate`). A released range is the
range of a releasable node of a forest tree; such a node holds a row that was not folded in as an outlier, the row's value lies
inside the node's range (when it lies inside the root range the tree was built for), and the stand-in lies above every value of
a column without nulls. Hence, for a column without nulls:

* `C07_no_nulls_single_column`: a one-column cluster — every cluster under `NoClustering`, a one-column table under any strategy —
  never yields a null (no further hypothesis: a one-column tree is built for the column's whole snapped range, which holds every
  value);
* `C07_no_nulls_partial`: a cluster of several columns never yields a null in a column none of whose values lies beyond the
  column's final (pushed-down) root range. *Missing for the full clause:* rows beyond that range (folded outliers of the
  one-column tree) are inserted into trees of two or more columns like any other row, and the tree invariant says nothing about
  where they sit (the gap behind the C18 hull finding); the clause is evaluated on every real `sample()` by the oracle.
-/

section
variable {α : Type} [Field α] [LinearOrder α] [IsStrictOrderedRing α] [FloorRing α] [Inhabited α]

/-- the released range of a node of a tree satisfying the invariant starts below a bound `nm` that lies above every value the node
holds, provided the node's rows that were not folded in lie inside the root range the tree was built for -/
theorem released_range_below (E : Env α) (c : FCtx α) (rr : List (Ival α)) (out : List Nat) (t m : Node α)
    (hT : TInvO E c rr out t) (hs : Node.Sub m t) (k : Nat) (hk : k < m.data.comb.length) (nm : α)
    (hbelow : ∀ r ∈ m.allRows, c.value r (m.data.comb.getD k 0) < nm)
    (hroot : ∀ r ∈ m.allRows, r ∉ out → (rr.getD k default).lo ≤ c.value r (m.data.comb.getD k 0) ∧
      c.value r (m.data.comb.getD k 0) ≤ (rr.getD k default).hi) :
    (m.bucketIntervals.getD k default).lo < nm := by
  obtain ⟨r, hr⟩ := List.exists_mem_of_ne_nil _ (TInvO.sub hs hT).nodeOK.nonempty
  obtain ⟨hrm, hro⟩ := mem_inRows.mp hr
  exact lt_of_le_of_lt (TInvO.values_inside E c rr out t m hT hs r hrm hro k hk (hroot r hrm hro)).1 (hbelow r hrm)

/-- in the tree of one column, what is reachable through children and sub-nodes and has a column at all is a node of the tree -/
theorem reach_one_column (root : Node α) (hsh : Shape root) (h1 : root.data.comb.length = 1) (m : Node α) (hr : Reach root m) :
    Shape m ∧ m.data.comb.length ≤ 1 ∧ (m.data.comb.length = 1 → Node.Sub m root) := by
  induction hr with
  | refl => exact ⟨hsh, by omega, fun _ => Node.Sub.refl _⟩
  | child d s ch p _ hp ih =>
    obtain ⟨hS, hle, hsub⟩ := ih
    cases hS with
    | branch _ _ _ _ _ _ _ hch hshch =>
      have hc := (hch p hp).1
      refine ⟨hshch p hp, by rw [hc]; exact hle, fun h => ?_⟩
      rw [hc] at h
      exact Node.Sub.trans (Node.Sub.child p.2 d s ch p hp (Node.Sub.refl _)) (hsub h)
  | sub n m' _ hm ih =>
    obtain ⟨hS, hle, _⟩ := ih
    obtain ⟨k, hk⟩ := List.mem_iff_getElem?.mp hm
    have facts : (∀ (k : Nat) (s : Node α), n.subnodes[k]? = some (some s) → k < n.data.comb.length ∧
        s.data.comb = n.data.comb.eraseIdx (n.data.comb.length - 1 - k)) ∧
        (∀ (k : Nat) (s : Node α), n.subnodes[k]? = some (some s) → Shape s) := by
      cases hS with
      | leaf d subs rows _ hC hSh => exact ⟨fun k s h => ⟨(hC k s h).1, (hC k s h).2.1⟩, hSh⟩
      | branch d subs ch _ hC hSh _ _ _ => exact ⟨fun k s h => ⟨(hC k s h).1, (hC k s h).2.1⟩, hSh⟩
    obtain ⟨hklt, hcomb⟩ := facts.1 k m' hk
    have hlen : m'.data.comb.length = 0 := by
      rw [hcomb, List.length_eraseIdx]
      split_ifs <;> omega
    exact ⟨facts.2 k m' hk, by omega, fun h => by omega⟩

/-- **one-column trees.**  Every range a harvest of the tree of column `j` returns starts below a bound `nm` that lies above every
value of the column (for a column without nulls: its null stand-in) — the tree is built for the column's whole snapped range
`rootSnapped0[j]`, which holds every value, so no hypothesis about outliers is needed. -/
theorem C07_ranges_below_single_column (E : Env α) (inp : ForestIn α) (F : Forest α) (hinit : Forest.init E inp = .ok F)
    (hn : 0 < inp.raw.size) (hlt : 0 ≤ F.ctx.ap.supp.lt) (j : Nat) (hj : j < F.trees1.length) (nm : α)
    (H1 : ∀ r < F.ctx.data.size, F.ctx.value r j < nm)
    (H2 : ∀ r < F.ctx.data.size, (F.rootSnapped0.getD j default).lo ≤ F.ctx.value r j ∧
      F.ctx.value r j ≤ (F.rootSnapped0.getD j default).hi)
    (stream : List Nat) (bs : List (BCell α)) (n : Nat) (h : harvest E F.ctx (F.trees1[j]) stream = .ok (bs, n)) :
    ∀ b ∈ bs, b.ivs.length = 1 ∧ (b.ivs.getD 0 default).lo < nm := by
  obtain ⟨out, hTO, hperm, hc, _, _⟩ := C18_forest_trees1 E inp F hinit hn j hj
  have hsh := hTO.shape
  intro b hb
  obtain ⟨hl, hr⟩ := C10_bucket_ranges E F.ctx hlt _ hsh stream bs n h b hb
  rw [hc] at hl hr
  refine ⟨by simpa using hl, ?_⟩
  obtain ⟨m, k, hreach, _, _, hk, hiv, hcol⟩ := hr 0 (by rw [hl]; simp)
  obtain ⟨_, hle, hsub⟩ := reach_one_column _ hsh (by rw [hc]; rfl) m hreach
  have hk0 : k = 0 := by omega
  subst hk0
  have hsub' := hsub (by omega)
  have hcol' : m.data.comb.getD 0 0 = j := by simpa using hcol
  have hrows : ∀ r ∈ m.allRows, r < F.ctx.data.size := by
    intro r hr
    have := hperm.subset (Node.Sub.rows_subset hsub' r hr)
    exact List.mem_range.mp this
  rw [hiv]
  refine released_range_below E F.ctx _ out _ m hTO hsub' 0 hk nm ?_ ?_
  · intro r hr; rw [hcol']; exact H1 r (hrows r hr)
  · intro r hr _
    rw [hcol']
    simpa using H2 r (hrows r hr)

/-- `_generate` yields a null only for the null range: a range that does not start at the column's stand-in decodes to a value -/
theorem generateCell_not_null (E : Env α) (cv : Conv α) (nm : α) (iv : Ival α) (s s' : List (Draw α)) (cell : Cell α) (f : α)
    (hne : iv.lo ≠ nm) (h : (generateCell E cv nm iv).run s = .ok ((cell, f), s')) : cell ≠ .null := by
  rcases generateCell_ok E cv nm iv s s' _ h with ⟨h0, _⟩ | ⟨_, h⟩
  · exact absurd h0 hne
  · rintro rfl
    cases cv <;> simpa using fromInterval_kind E _ iv s s' _ f h

/-- **C07, no nulls from a one-column cluster.**  `materialize_tree(forest, [j])` — every cluster under `NoClustering`, the only cluster of
a one-column table — for a column whose null stand-in lies above all of its values (a column without nulls, `H1`; the column's snapped
range holds every value, `H2`, as `Forest.__init__` makes it): no generated cell is a null, whatever the data of the other columns, the
ids, the salt, the parameters and both RNG streams. -/
theorem C07_no_nulls_single_column (E : Env α) (inp : ForestIn α) (F : Forest α) (hinit : Forest.init E inp = .ok F)
    (hn : 0 < inp.raw.size) (hlt : 0 ≤ F.ctx.ap.supp.lt) (convs : List (Conv α)) (j : Nat)
    (H1 : ∀ r < F.ctx.data.size, F.ctx.value r j < F.nullMaps.getD j (ofInt 0))
    (H2 : ∀ r < F.ctx.data.size, (F.rootSnapped0.getD j default).lo ≤ F.ctx.value r j ∧
      F.ctx.value r j ≤ (F.rootSnapped0.getD j default).hi)
    (hstream : List Nat) (mstream : List (Draw α)) (rows : List (List (Cell α × α))) (drawn left : Nat)
    (h : materializeTree E F convs [j] hstream mstream = .ok (rows, drawn, left)) :
    ∀ row ∈ rows, ∀ cell ∈ row, cell.1 ≠ .null := by
  obtain ⟨t, bs, ht, hh, hrows⟩ := materializeTree_cells E inp F hinit hn hlt convs [j] (by simp) hstream mstream rows drawn left h
  rw [Forest.tree?] at ht
  obtain ⟨hj, rfl⟩ := List.getElem?_eq_some_iff.mp ht
  intro row hrow cell hcell
  obtain ⟨hlen, b, hb, _, hcells⟩ := hrows row hrow
  obtain ⟨c, rfl⟩ := List.length_eq_one_iff.mp hlen
  obtain rfl := List.mem_singleton.mp hcell
  obtain ⟨s, s', hrun⟩ := hcells 0 (by simp)
  exact generateCell_not_null E _ _ _ s s' _ _
    (ne_of_lt (C07_ranges_below_single_column E inp F hinit hn hlt j hj _ H1 H2 hstream bs drawn hh b hb).2) hrun

/-- nodes of a tree carry the tree's columns -/
theorem TInvO.sub_comb {E : Env α} {c : FCtx α} {root : List (Ival α)} {out : List Nat} {n t : Node α} (hs : Node.Sub n t)
    (hT : TInvO E c root out t) : n.data.comb = t.data.comb := by
  induction hs with
  | refl => rfl
  | child d s ch p hp _ ih =>
    cases hT with
    | branch _ _ _ _ hB hC => rw [ih (hC p hp)]; exact (hB.child p hp).1

/-- **trees of any number of columns (partial).**  Every range a harvest of any forest tree returns for column `j` starts below a bound
`nm` above the column's values — provided no value of the column lies beyond the column's final (pushed-down) root range (`H3`). -/
theorem C07_ranges_below_partial (E : Env α) (inp : ForestIn α) (F : Forest α) (hinit : Forest.init E inp = .ok F)
    (hn : 0 < inp.raw.size) (hlt : 0 ≤ F.ctx.ap.supp.lt) (fuel : Nat) (comb : List Nat) (hk : 1 ≤ comb.length) (t : Node α)
    (ht : F.tree? E fuel comb = some t) (pos : Nat) (hpos : pos < comb.length) (nm : α)
    (H1 : ∀ r < F.ctx.data.size, F.ctx.value r (comb.getD pos 0) < nm)
    (H2 : ∀ r < F.ctx.data.size, (F.rootSnapped0.getD (comb.getD pos 0) default).lo ≤ F.ctx.value r (comb.getD pos 0) ∧
      F.ctx.value r (comb.getD pos 0) ≤ (F.rootSnapped0.getD (comb.getD pos 0) default).hi)
    (H3 : ∀ r < F.ctx.data.size, (F.snapped.getD (comb.getD pos 0) default).lo ≤ F.ctx.value r (comb.getD pos 0) ∧
      F.ctx.value r (comb.getD pos 0) ≤ (F.snapped.getD (comb.getD pos 0) default).hi)
    (stream : List Nat) (bs : List (BCell α)) (n : Nat) (h : harvest E F.ctx t stream = .ok (bs, n)) :
    ∀ b ∈ bs, b.ivs.length = comb.length ∧ (b.ivs.getD pos default).lo < nm := by
  obtain ⟨⟨hc, _, hsh⟩, _⟩ := C18_forest_tree E inp F hinit hn fuel comb t hk ht
  intro b hb
  obtain ⟨hl, hr⟩ := C10_bucket_ranges E F.ctx hlt t hsh stream bs n h b hb
  rw [hc] at hl hr
  refine ⟨hl, ?_⟩
  obtain ⟨m, k, hreach, _, _, hkm, hiv, hcol⟩ := hr pos (by rw [hl]; exact hpos)
  obtain ⟨fuel', comb', t', hk', ht', hsub⟩ := reach_inForest E inp F hinit t m ⟨fuel, comb, t, hk, ht, Node.Sub.refl _⟩ hreach
  rw [hiv]
  obtain ⟨⟨hc', _, _⟩, out, hTO, hperm⟩ := forest_tree_invO E inp F hinit hn fuel' comb' t' hk' ht'
  have hmc : m.data.comb = comb' := by rw [TInvO.sub_comb hsub hTO, hc']
  have hrows : ∀ r ∈ m.allRows, r < F.ctx.data.size := fun r hr =>
    List.mem_range.mp (hperm.subset (Node.Sub.rows_subset hsub r hr))
  refine released_range_below E F.ctx _ out t' m hTO hsub k hkm nm ?_ ?_
  · intro r hr; rw [hcol]; exact H1 r (hrows r hr)
  · intro r hr _
    have hk'' : k < comb'.length := hmc ▸ hkm
    rw [show (comb'.map fun j => (if comb'.length = 1 then F.rootSnapped0 else F.snapped).getD j default).getD k default =
        (if comb'.length = 1 then F.rootSnapped0 else F.snapped).getD (m.data.comb.getD k 0) default by
      rw [hmc]; simp [List.getD_eq_getElem?_getD, hk''], hcol]
    split_ifs
    · exact H2 r (hrows r hr)
    · exact H3 r (hrows r hr)

/-- **C07, no nulls in a column without nulls and without folded outliers (partial).**  `materialize_tree(forest, comb)` for any column
combination: in the place of a column whose null stand-in lies above all of its values (`H1`) and none of whose values lies beyond the
column's final root range (`H3`; `H2`: nor beyond its snapped range, which `Forest.__init__` guarantees), no generated cell is a null.
What is missing for the property's full clause is `H3`: see the header of this file. -/
theorem C07_no_nulls_partial (E : Env α) (inp : ForestIn α) (F : Forest α) (hinit : Forest.init E inp = .ok F)
    (hn : 0 < inp.raw.size) (hlt : 0 ≤ F.ctx.ap.supp.lt) (convs : List (Conv α)) (comb : List Nat) (hk : 1 ≤ comb.length)
    (pos : Nat) (hpos : pos < comb.length)
    (H1 : ∀ r < F.ctx.data.size, F.ctx.value r (comb.getD pos 0) < F.nullMaps.getD (comb.getD pos 0) (ofInt 0))
    (H2 : ∀ r < F.ctx.data.size, (F.rootSnapped0.getD (comb.getD pos 0) default).lo ≤ F.ctx.value r (comb.getD pos 0) ∧
      F.ctx.value r (comb.getD pos 0) ≤ (F.rootSnapped0.getD (comb.getD pos 0) default).hi)
    (H3 : ∀ r < F.ctx.data.size, (F.snapped.getD (comb.getD pos 0) default).lo ≤ F.ctx.value r (comb.getD pos 0) ∧
      F.ctx.value r (comb.getD pos 0) ≤ (F.snapped.getD (comb.getD pos 0) default).hi)
    (hstream : List Nat) (mstream : List (Draw α)) (rows : List (List (Cell α × α))) (drawn left : Nat)
    (h : materializeTree E F convs comb hstream mstream = .ok (rows, drawn, left)) :
    ∀ row ∈ rows, ∀ hp : pos < row.length, row[pos].1 ≠ .null := by
  obtain ⟨t, bs, ht, hh, hrows⟩ := materializeTree_cells E inp F hinit hn hlt convs comb hk hstream mstream rows drawn left h
  intro row hrow hp
  obtain ⟨_, b, hb, _, hcells⟩ := hrows row hrow
  obtain ⟨s, s', hrun⟩ := hcells pos hpos
  have hlo := (C07_ranges_below_partial E inp F hinit hn hlt 8 comb hk t ht pos hpos _ H1 H2 H3 hstream bs drawn hh b hb).2
  rw [show comb.getD pos 0 = comb[pos] by simp [List.getD_eq_getElem?_getD, hpos]] at hlo
  simpa [List.getD_eq_getElem?_getD, hp] using generateCell_not_null E _ _ _ s s' _ _ (ne_of_lt hlo) hrun

/-- **C07, one-column clusters, from `Forest.__init__` on.**  For a forest built on any normalised table, a column `j` that holds no null
and only non-negative values, and `materialize_tree(forest, [j])` — every cluster of `NoClustering`, the cluster of a one-column table —:
no generated cell is a null. No hypothesis about outliers, the other columns, ids, salt, parameters or RNG streams. -/
theorem C07_no_nulls_single_column_init (E : Env α) (inp : ForestIn α) (F : Forest α) (hinit : Forest.init E inp = .ok F)
    (hn : 0 < inp.raw.size) (hlt : 0 ≤ F.ctx.ap.supp.lt) (convs : List (Conv α)) (j : Nat) (hj : j < inp.names.length)
    (hcol : ∀ (r : Nat) (hr : r < inp.raw.size), ∃ v, (inp.raw[r][j]?).join = some v ∧ 0 ≤ v)
    (hstream : List Nat) (mstream : List (Draw α)) (rows : List (List (Cell α × α))) (drawn left : Nat)
    (h : materializeTree E F convs [j] hstream mstream = .ok (rows, drawn, left)) :
    ∀ row ∈ rows, ∀ cell ∈ row, cell.1 ≠ .null := by
  obtain ⟨H1, H2⟩ := forest_column_without_nulls E inp F hinit j hj hcol
  exact C07_no_nulls_single_column E inp F hinit hn hlt convs j H1 H2 hstream mstream rows drawn left h

/-- the same for a cluster of several columns, for a column none of whose values lies beyond its final root range (partial, see
`C07_no_nulls_partial`) -/
theorem C07_no_nulls_partial_init (E : Env α) (inp : ForestIn α) (F : Forest α) (hinit : Forest.init E inp = .ok F)
    (hn : 0 < inp.raw.size) (hlt : 0 ≤ F.ctx.ap.supp.lt) (convs : List (Conv α)) (comb : List Nat) (hk : 1 ≤ comb.length)
    (pos : Nat) (hpos : pos < comb.length) (hj : comb.getD pos 0 < inp.names.length)
    (hcol : ∀ (r : Nat) (hr : r < inp.raw.size), ∃ v, (inp.raw[r][comb.getD pos 0]?).join = some v ∧ 0 ≤ v)
    (H3 : ∀ r < F.ctx.data.size, (F.snapped.getD (comb.getD pos 0) default).lo ≤ F.ctx.value r (comb.getD pos 0) ∧
      F.ctx.value r (comb.getD pos 0) ≤ (F.snapped.getD (comb.getD pos 0) default).hi)
    (hstream : List Nat) (mstream : List (Draw α)) (rows : List (List (Cell α × α))) (drawn left : Nat)
    (h : materializeTree E F convs comb hstream mstream = .ok (rows, drawn, left)) :
    ∀ row ∈ rows, ∀ hp : pos < row.length, row[pos].1 ≠ .null := by
  obtain ⟨H1, H2⟩ := forest_column_without_nulls E inp F hinit _ hj hcol
  exact C07_no_nulls_partial E inp F hinit hn hlt convs comb hk pos hpos H1 H2 H3 hstream mstream rows drawn left h

/-- Non-vacuity: a two-row column `[0.25, 0.5]` meets the column hypothesis. -/
example : ∀ (r : Nat) (hr : r < (#[#[some (1/4 : ℚ)], #[some (1/2 : ℚ)]] : Array (Array (Option ℚ))).size),
    ∃ v, (((#[#[some (1/4 : ℚ)], #[some (1/2 : ℚ)]] : Array (Array (Option ℚ)))[r][0]?).join = some v ∧ 0 ≤ v) := by
  intro r hr
  have : r < 2 := by simpa using hr
  interval_cases r
  · exact ⟨1/4, by simp, by norm_num⟩
  · exact ⟨1/2, by simp, by norm_num⟩

/-- column `j` of the normalised table holds no null and only non-negative values -/
def NoNullCol (inp : ForestIn α) (j : Nat) : Prop :=
  j < inp.names.length ∧ ∀ (r : Nat) (hr : r < inp.raw.size), ∃ v, (inp.raw[r][j]?).join = some v ∧ 0 ≤ v

theorem sortAscStable_singleton (j : Nat) : sortAscStable (fun a b => decide (a < b)) [j] = [j] := by
  simp [sortAscStable, insertAsc]

/-- **C07, "nulls occur only in columns that had nulls", per-column patching, end to end from `Forest.__init__`.**  The table
`build_table` assembles under the plan of `NoClustering` (the first column's microtable, every other column's patched on): in the place
of a column that holds no null (and, as every normalised column, no negative value) there is never a null — whatever the data, the ids,
the salt, the parameters and every RNG stream. Each cluster is a single column (`C07_no_nulls_single_column_init`), and patching moves
cells only under their own column (`buildTable_cells_for`). -/
theorem C07_noClustering_no_nulls (E : Env α) (inp : ForestIn α) (F : Forest α) (hinit : Forest.init E inp = .ok F)
    (hn : 0 < inp.raw.size) (hlt : 0 ≤ F.ctx.ap.supp.lt) (convs : List (Conv α)) (isIntegral : List Bool) (entropy : List α) (threshRel : α)
    (streams : List (List Nat × List (Draw α))) (s s' : List (Draw α)) (res : MTable (Cell α) α)
    (h : (buildTable E F convs isIntegral entropy threshRel (noClusteringPlan inp.names.length) streams).run s = .ok (res, s')) :
    ∀ row ∈ res.1, row.length = res.2.length ∧
      ∀ (k : Nat) (hk : k < res.2.length), NoNullCol inp res.2[k] → (row.getD k default).1 ≠ .null := by
  have hM : MaterializeOKFor E F convs (fun cols => ∃ j, cols = [j]) (fun j cell => NoNullCol inp j → cell.1 ≠ .null) := by
    intro cols ⟨j, hj⟩ streams s s' res hm
    subst hj
    obtain ⟨hcomb, drawn, left, hmt⟩ := materializeGM_tree E F convs [j] streams s s' res hm
    rw [sortAscStable_singleton] at hcomb hmt
    obtain ⟨_, _, _, _, hrows⟩ := materializeTree_cells E inp F hinit hn hlt convs [j] (by simp) _ _ res.1 drawn left hmt
    intro row hrow
    obtain ⟨c, rfl⟩ := List.length_eq_one_iff.mp (hrows row hrow).1
    rw [hcomb]
    refine ⟨rfl, fun k hk hcol => ?_⟩
    obtain rfl : k = 0 := by simpa using hk
    exact C07_no_nulls_single_column_init E inp F hinit hn hlt convs j hcol.1 hcol.2 _ _ res.1 drawn left hmt _ hrow c
      (List.mem_singleton_self c)
  have := buildTable_cells_for E F convs isIntegral entropy threshRel (noClusteringPlan inp.names.length) streams s s' res
    (fun cols => ∃ j, cols = [j]) _ ⟨0, rfl⟩ (by
      intro dc hdc
      simp only [noClusteringPlan, List.mem_map] at hdc
      obtain ⟨i, _, rfl⟩ := hdc
      exact ⟨i + 1, rfl⟩) hM h
  exact this

end
