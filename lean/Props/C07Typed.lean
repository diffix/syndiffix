import Props.C07Init
import Props.C09
import SdxModel.Convert
set_option linter.unusedSectionVars false
set_option linter.unusedVariables false
/-!
# Normalised values are non-negative

`apply_convertors` hands the forest non-negative numbers: booleans as 0/1, strings as indices, numbers through the fitted
`MinMaxScaler`: `x·scale_ + min_ = (x − min)·scale_` with `scale_ > 0` and `min` the column's minimum.
-/

section
variable {α : Type} [Field α] [LinearOrder α] [IsStrictOrderedRing α] [FloorRing α] [Inhabited α]

theorem foldMin_le (vs : List α) : ∀ (v : α),
    vs.foldl (fun m x => if x < m then x else m) v ≤ v ∧ ∀ x ∈ vs, vs.foldl (fun m x => if x < m then x else m) v ≤ x := by
  induction vs with
  | nil => intro v; simp
  | cons y ys ih =>
    intro v
    simp only [List.foldl_cons, ite_lt_eq_min]
    obtain ⟨h1, h2⟩ := ih (min v y)
    simp only [ite_lt_eq_min] at h1 h2
    exact ⟨h1.trans (min_le_left _ _), fun x hx =>
      (List.mem_cons.mp hx).elim (fun e => e ▸ h1.trans (min_le_right _ _)) (h2 x)⟩

/-- the fitted scaler maps every fitted value to a non-negative number -/
theorem scaleValue_nonneg (vals : List α) (x : α) (hx : x ∈ vals) :
    0 ≤ scaleValue (fitScaler vals).1 (fitScaler vals).2 x := by
  cases vals with
  | nil => cases hx
  | cons v vs =>
    have hlo : vs.foldl (fun m x => if x < m then x else m) v ≤ x :=
      (List.mem_cons.mp hx).elim (· ▸ (foldMin_le vs v).1) ((foldMin_le vs v).2 x)
    have hmin : (fitScaler (v :: vs)).1 = 0 - vs.foldl (fun m x => if x < m then x else m) v * (fitScaler (v :: vs)).2 := by
      simp [fitScaler]
    rw [scaleValue, hmin, show ∀ a b c : α, a * b + (0 - c * b) = (a - c) * b from fun a b c => by ring]
    exact mul_nonneg (sub_nonneg.mpr hlo) (fitScaler_scale_pos _).le

/-- every non-null cell of a normalised column is non-negative -/
theorem fitColumn_nonneg (E : Env α) (col : RawCol α) : ∀ o ∈ (fitColumn E col).2, ∀ v, o = some v → 0 ≤ v := by
  intro o ho v hv
  subst hv
  cases col with
  | bool l =>
    simp only [fitColumn, List.mem_map] at ho
    obtain ⟨b, _, hb⟩ := ho
    simp only [Option.some.injEq] at hb
    rw [← hb]
    split_ifs <;> simp [ofInt_eq]
  | int l =>
    simp only [fitColumn, List.mem_map] at ho
    obtain ⟨x, hx, hb⟩ := ho
    simp only [Option.some.injEq] at hb
    rw [← hb]
    exact scaleValue_nonneg _ x (List.mem_map.mpr hx)
  | real l =>
    simp only [fitColumn] at ho
    split_ifs at ho with he
    · -- no non-null value at all
      have : some v ∈ l := ho
      have hm : v ∈ l.filterMap id := List.mem_filterMap.mpr ⟨some v, this, rfl⟩
      rw [List.isEmpty_iff.mp he] at hm
      cases hm
    · simp only [List.mem_map] at ho
      obtain ⟨o', ho', hb⟩ := ho
      cases o' with
      | none => simp at hb
      | some x =>
        simp only [Option.map_some, Option.some.injEq] at hb
        rw [← hb]
        exact scaleValue_nonneg _ x (List.mem_filterMap.mpr ⟨some x, ho', rfl⟩)
  | ts l =>
    simp only [fitColumn] at ho
    split_ifs at ho with he
    · have hm : v ∈ (l.map (fun o => o.map (fun i => (ofInt i : α)))).filterMap id := List.mem_filterMap.mpr ⟨some v, ho, rfl⟩
      rw [List.isEmpty_iff.mp he] at hm
      cases hm
    · simp only [List.mem_map] at ho
      obtain ⟨o', ho', hb⟩ := ho
      cases o' with
      | none => simp at hb
      | some x =>
        simp only [Option.map_some, Option.some.injEq] at hb
        rw [← hb]
        exact scaleValue_nonneg _ x (List.mem_filterMap.mpr ⟨some x, List.mem_map.mpr ho', rfl⟩)
  | str l =>
    simp only [fitColumn, List.mem_map] at ho
    obtain ⟨o', _, hb⟩ := ho
    cases o' with
    | none => simp at hb
    | some x =>
      simp only [Option.map_some, Option.some.injEq] at hb
      rw [← hb]
      simp [ofInt_eq]

end

section
variable {α : Type} [Field α] [LinearOrder α] [IsStrictOrderedRing α] [FloorRing α] [Inhabited α]

/-- which cells of a typed column are nulls (booleans and integers cannot be) -/
def RawCol.nulls : RawCol α → List Bool
  | .bool v => v.map fun _ => false
  | .int v => v.map fun _ => false
  | .real v => v.map Option.isNone
  | .ts v => v.map Option.isNone
  | .str v => v.map Option.isNone

/-- a column of `nrows` cells none of which is a null -/
def TypedNoNull (col : RawCol α) (nrows : Nat) : Prop := col.nulls = List.replicate nrows false

theorem map_isNone_replicate {β : Type} (l : List (Option β)) (n : Nat) (h : l.map Option.isNone = List.replicate n false) :
    l.length = n ∧ ∀ o ∈ l, o.isSome = true := by
  have hl : l.length = n := by simpa using congrArg List.length h
  refine ⟨hl, fun o ho => ?_⟩
  have : o.isNone ∈ l.map Option.isNone := List.mem_map.mpr ⟨o, ho, rfl⟩
  rw [h] at this
  have := (List.mem_replicate.mp this).2
  cases o <;> simp_all

/-- normalisation keeps the null pattern of a column -/
theorem fitColumn_nulls (E : Env α) (col : RawCol α) : (fitColumn E col).2.map Option.isNone = col.nulls := by
  cases col with
  | bool l => simp [fitColumn, RawCol.nulls, Function.comp_def]
  | int l => simp [fitColumn, RawCol.nulls, Function.comp_def]
  | real l => simp only [fitColumn, RawCol.nulls]; split_ifs <;> simp
  | ts l => simp only [fitColumn, RawCol.nulls]; split_ifs <;> simp
  | str l => simp [fitColumn, RawCol.nulls]

/-- a normalised column without nulls: `nrows` cells, every one a (non-negative) number -/
theorem fitColumn_no_null (E : Env α) (col : RawCol α) (nrows : Nat) (h : TypedNoNull col nrows) (r : Nat) (hr : r < nrows) :
    ∃ v, (fitColumn E col).2.getD r none = some v ∧ 0 ≤ v := by
  obtain ⟨hlen, hsome⟩ := map_isNone_replicate _ nrows ((fitColumn_nulls E col).trans h)
  have hr' : r < (fitColumn E col).2.length := hlen ▸ hr
  have hmem : (fitColumn E col).2[r] ∈ (fitColumn E col).2 := List.getElem_mem hr'
  obtain ⟨v, hv⟩ := Option.isSome_iff_exists.mp (hsome _ hmem)
  exact ⟨v, by simp [List.getD_eq_getElem?_getD, hr', hv], fitColumn_nonneg E col _ hmem v hv⟩

/-- the cell `(r, j)` of the normalised table -/
theorem fitTable_cell (E : Env α) (cols : List (RawCol α)) (nrows : Nat) (r j : Nat) (hr : r < (fitTable E cols nrows).2.size)
    (hj : j < cols.length) :
    (((fitTable E cols nrows).2[r])[j]?).join = (fitColumn E cols[j]).2.getD r none := by
  have hr' : r < nrows := by simpa [fitTable] using hr
  simp [fitTable, hj, hr']

end

/-- Non-vacuity: an integer column and a real column of three cells without nulls. -/
example : TypedNoNull (.int [1, 2, 3] : RawCol ℚ) 3 ∧ TypedNoNull (.real [some (1/2), some 2, some 0] : RawCol ℚ) 3 := by
  constructor <;> rfl
