import SdxProofs.BuildTable
import SdxModel.Sample
import Props.C02
import Props.C03
import Props.C10
import Props.C11
import Props.C12
import Props.C18
import SdxProofs.Height
import SdxModel.Convert
import SdxProofs.Materialize
import SdxProofs.InForest
set_option linter.unusedSectionVars false
/-!
# C08 — Synthetic row count tracks the original within the hard noise bound

The bound is assembled from: the root's released count is the rounded true count plus two noise layers, each at
most `8.5·sd` in absolute value (`C03_boxMuller_bound`), floored at `low_threshold`; rescaling children to the
parent's count loses at most one unit (`C10_adjust_sum`); microdata emits one row per unit (`C10_microdata_rows`);
patching keeps the left row count (`C12_patch`). That the root's *true* count is the number of input rows
(no row lost or counted twice) is clause (a) of C18 (`forest_tree_invO`), brought in by `forest_root_unique`.
-/

section
variable {α : Type} [Field α] [LinearOrder α] [IsStrictOrderedRing α] [FloorRing α] [Inhabited α]

/-- T08.b  (one row per entity) the released count of `N` rows is within `17·sd + ½` of `N`
whenever the deviate is bounded by `8.5` (which Box–Muller on `u₁ ≥ 2⁻⁵²` is, over the reals). -/
theorem C08_count_within_bound (E : Env α) (ap : AnonParams α) (bs seed : UInt64) (N : Int)
    (hsd : 0 ≤ ap.noiseSd) (hz : ∀ s, |E.z s| ≤ 17 / 2) :
    |((countSingle E ap bs N seed : Int) : α) - (N : α)| ≤ 17 * ap.noiseSd + 1 / 2 := by
  have hn := C03_noise_bound E ap.salt ap.noiseSd (17 / 2) bs seed hsd hz
  have hr := C11_round_half ((N : α) + generateNoise E ap.salt "noise" ap.noiseSd [bs, seed])
  have := abs_sub_le ((countSingle E ap bs N seed : Int) : α)
    ((N : α) + generateNoise E ap.salt "noise" ap.noiseSd [bs, seed]) (N : α)
  rw [add_sub_cancel_left] at this
  calc _ ≤ _ := this
    _ ≤ 1 / 2 + 2 * (17 / 2) * ap.noiseSd := add_le_add hr hn
    _ = _ := by ring

/-- T08.d  a group of `N ≥ low_threshold + (gap + 8.5)·sd` entities always passes the low-count filter (`gap, sd ≥ 0`). -/
theorem C08_large_group_passes (E : Env α) (salt : ByteArray) (p : SuppParams α) (N : Int) (seed : UInt64)
    (hsd : 0 ≤ p.sd) (hgap : 0 ≤ p.gap) (hz : ∀ s, |E.z s| ≤ 17 / 2) (hN : (p.lt : α) + (p.gap + 17 / 2) * p.sd ≤ (N : α)) :
    isLowCount E salt p [(N, seed)] = false := by
  rw [pass_singleton_iff]
  have hg : p.sd * E.z (suppressSeed E salt seed) ≤ p.sd * (17 / 2) :=
    mul_le_mul_of_nonneg_left (abs_le.mp (hz _)).2 hsd
  have hpos : (0 : α) ≤ (p.gap + 17 / 2) * p.sd := mul_nonneg (add_nonneg hgap (by norm_num)) hsd
  exact ⟨Int.cast_le.mp (le_trans (le_add_of_nonneg_right hpos) hN),
    (add_le_add hg le_rfl).trans ((by ring : _ = _).trans_le hN)⟩

/-- T08.d  with the noise switched off a group passes iff it has at least `low_threshold` entities. -/
theorem C08_noise_off_floor (E : Env α) (salt : ByteArray) (p : SuppParams α) (N : Int) (seed : UInt64) (hsd : p.sd = 0) :
    isLowCount E salt p [(N, seed)] = false ↔ p.lt ≤ N := C02_pass_iff_sd_zero E salt p N seed hsd

/-- sum of the (positive) bucket counts as natural numbers -/
theorem sum_toNat_of_pos (bs : List (BCell α)) (h : ∀ b ∈ bs, 0 < b.count) :
    (((bs.map fun b => b.count.toNat).sum : Nat) : Int) = (bs.map (·.count)).sum := by
  induction bs with
  | nil => rfl
  | cons b bs ih =>
    have hb := h b (by simp)
    have := ih (fun x hx => h x (by simp [hx]))
    simp only [List.map_cons, List.sum_cons, Nat.cast_add, this]
    omega

/-- the rows of a microtable: none, and then the tree's root fails the low-count filter; or the root is a branch or passes the
filter, and there are as many rows as the root's released count or one less -/
theorem materializeTree_rows (E : Env α) (inp : ForestIn α) (F : Forest α) (hinit : Forest.init E inp = .ok F)
    (hn : 0 < inp.raw.size) (hlt : 0 ≤ F.ctx.ap.supp.lt) (convs : List (Conv α)) (comb : List Nat) (hk : 1 ≤ comb.length)
    (hstream : List Nat) (mstream : List (Draw α)) (rows : List (List (Cell α × α))) (drawn left : Nat)
    (h : materializeTree E F convs comb hstream mstream = .ok (rows, drawn, left)) :
    ∃ t, F.tree? E 8 comb = some t ∧
      ((rows = [] ∧ t.overThreshold E F.ctx F.ctx.ap.supp.lt = false) ∨
        (t.isLeaf = true → t.overThreshold E F.ctx F.ctx.ap.supp.lt = true) ∧
          ∃ N, t.noisyCount E F.ctx = .ok N ∧ ((rows.length : Int) = N ∨ (rows.length : Int) = N - 1)) := by
  obtain ⟨t, bs, rest, ht, hh, hm⟩ := materializeTree_ok h
  refine ⟨t, ht, ?_⟩
  have hlen : (rows.length : Int) = (bs.map (·.count)).sum := by
    rw [C10_microdata_rows E _ _ bs mstream rest rows hm, sum_toNat_of_pos bs (C10_harvest_positive E F.ctx t hstream bs drawn hh)]
  rw [hlen]
  refine (C10_harvest_conservation_strong E F.ctx hlt t (C18_forest_tree E inp F hinit hn 8 comb t hk ht).1.2.2 hstream bs drawn
    hh).imp_left fun ⟨hbs, hsup⟩ => ⟨?_, hsup⟩
  rw [hbs] at hlen
  simpa using hlen

/-- C08, composed for one cluster (`materialize_tree`: forest tree → harvest → microdata; what `sample()` returns under
`SingleClustering`, and what every cluster contributes before stitching): the number of synthetic rows is the released count
of the tree's root or one less, or the table is empty. Every RNG stream, every fitted convertor. -/
theorem C08_materialize_rows (E : Env α) (inp : ForestIn α) (F : Forest α) (hinit : Forest.init E inp = .ok F)
    (hn : 0 < inp.raw.size) (hlt : 0 ≤ F.ctx.ap.supp.lt) (convs : List (Conv α)) (comb : List Nat) (hk : 1 ≤ comb.length)
    (hstream : List Nat) (mstream : List (Draw α)) (rows : List (List (Cell α × α))) (drawn left : Nat)
    (h : materializeTree E F convs comb hstream mstream = .ok (rows, drawn, left)) :
    ∃ t, F.tree? E 8 comb = some t ∧
      (rows = [] ∨ ∃ N, t.noisyCount E F.ctx = .ok N ∧ ((rows.length : Int) = N ∨ (rows.length : Int) = N - 1)) := by
  obtain ⟨t, ht, hr⟩ := materializeTree_rows E inp F hinit hn hlt convs comb hk hstream mstream rows drawn left h
  exact ⟨t, ht, hr.imp And.left And.right⟩

end

/-!
## C08, end to end for one cluster

`Synthesizer(df, SingleClustering).sample()` in the model — `Forest.init`, the tree over all columns (or the single column),
`harvest`, `generate_microdata` — for a table in which every row carries its own non-null entity id (implicit row ids):
the number of synthetic rows lies between `N − 1 − (17·sd + ½)` and `N + 17·sd + ½`, and the table is empty only if the root
fails the low-count filter, which needs `N < low_threshold + (gap + 8.5)·layer_sd`. Everything between the input table and the
row list is inside the theorem: no row lost or counted twice (`C18_forest_tree`: the leaves' rows are a permutation of
`0..N−1`; `forest_tree_matchingRows`: the counter sees all of them), two noise layers of at most `8.5·sd` each, the floor
at `low_threshold`, rescaling with a loss of at most one unit through the whole stateful harvest, one row per unit of count.
-/

set_option linter.unusedVariables false
section
variable {α : Type} [Field α] [LinearOrder α] [IsStrictOrderedRing α] [FloorRing α] [Inhabited α]

/-- every row carries exactly one non-null id (implicit row ids, or an id column without nulls and without repeats) -/
def OneIdPerRow (pids : Array (List UInt64)) (n : Nat) : Prop := ∀ r < n, ∃ p, pids[r]! = [p] ∧ p ≠ 0

/-- the unique-id counter over rows that each carry one non-null id counts the rows -/
theorem unique_counter_rows (c : FCtx α) (n : Nat) (hids : OneIdPerRow c.pids n) (l : List Nat) (hl : ∀ r ∈ l, r < n) :
    ∃ s, CounterKind.unique.newEntity.addMany (l.map c.pidRow) = .unique l.length s := by
  obtain ⟨s, hs⟩ := addMany_unique (l.map c.pidRow) 0 0
  refine ⟨s, ?_⟩
  rw [CounterKind.newEntity, hs, Nat.zero_add, nonNullRows, List.countP_map, List.countP_eq_length.mpr]
  intro r hr
  obtain ⟨p, hp, hp0⟩ := hids r (hl r hr)
  simp [FCtx.pidRow, hp, hp0]

/-- the low-count answer and the released count of the root of a forest tree, for a table with one non-null id per row:
both are computed over all `N` rows -/
theorem forest_root_unique (E : Env α) (inp : ForestIn α) (F : Forest α) (hinit : Forest.init E inp = .ok F)
    (hn : 0 < inp.raw.size) (hkind : inp.kind = .unique) (hids : OneIdPerRow inp.pids inp.raw.size)
    (fuel : Nat) (comb : List Nat) (t : Node α) (hk : 1 ≤ comb.length) (ht : F.tree? E fuel comb = some t) :
    ∃ s1 s2 seed, t.overThreshold E F.ctx F.ctx.ap.supp.lt = !(isLowCount E F.ctx.ap.salt F.ctx.ap.supp [((inp.raw.size : Int), s1)]) ∧
      t.noisyCount E F.ctx = .ok (max (countSingle E F.ctx.ap seed (inp.raw.size : Int) s2) F.ctx.ap.supp.lt) ∧
      (t.isLeaf = false → F.ctx.ap.supp.lt ≤ (inp.raw.size : Int)) := by
  obtain ⟨hpids, hap, hkd, _⟩ := forest_init_ctx E inp F hinit
  obtain ⟨_, _, _, hsize, _, _⟩ := forest_init_trees1 E inp F hinit
  obtain ⟨_, _, hTO, hperm⟩ := forest_tree_invO E inp F hinit hn fuel comb t hk ht
  obtain ⟨hist, hhist, hcnt⟩ := hTO.nodeOK.counter
  have hmr := forest_tree_matchingRows E inp F hinit fuel comb t ht
  have hids' : OneIdPerRow F.ctx.pids inp.raw.size := by rw [hpids]; exact hids
  have hlt_all : ∀ r ∈ t.allRows, r < inp.raw.size := by
    intro r hr
    have := hperm.subset hr
    rw [hsize] at this
    exact List.mem_range.mp this
  have hlen_all : t.allRows.length = inp.raw.size := by rw [hperm.length_eq, hsize]; simp
  rw [hkd, hkind] at hcnt
  obtain ⟨s1, hs1⟩ := unique_counter_rows F.ctx inp.raw.size hids' hist (fun r hr => hlt_all r (hhist.subset hr))
  obtain ⟨s2, hs2⟩ := unique_counter_rows F.ctx inp.raw.size hids' t.allRows hlt_all
  rw [hhist.length_eq, hlen_all] at hs1
  rw [hlen_all] at hs2
  refine ⟨s1, s2, t.data.baseSeed ^^^ hashStrings E (t.bucketIntervals.map (fun iv => E.label iv.middle)), ?_, ?_, ?_⟩
  · unfold Node.overThreshold
    rw [hcnt, hs1]
    simp [ECounter.isLowCount, ECounter.trackers]
  · unfold Node.noisyCount
    simp only [hmr, hkd, hkind, rowNoisyCount, hs2]
  · intro hl
    obtain ⟨h0, hsub, hlow⟩ := releasable_licence E F.ctx _ _ t t hTO (Node.Sub.refl _) (fun h => by rw [hl] at h; cases h)
    rw [hkd, hkind] at hlow
    have h1 := pass_floor_unique E _ _ _ hlow
    have h2 : nonNullRows (h0.map F.ctx.pidRow) ≤ h0.length := (List.countP_le_length).trans (List.length_map _).le
    have h3 := hsub.length_le
    omega

/-- a count that is the larger of `v` and `lt`, or one less, where `v` is within `e` of `n` and `lt ≤ n` -/
theorem rows_within (n v lt N len : Int) (e : α) (hN : max v lt = N) (hlen : len = N ∨ len = N - 1)
    (hfloor : lt ≤ n) (hb : |(v : α) - n| ≤ e) : (n : α) - 1 - e ≤ len ∧ (len : α) ≤ n + e := by
  obtain ⟨hb1, hb2⟩ := abs_le.mp hb
  have hlo : (n : α) - e ≤ N := by
    have : (v : α) ≤ N := by exact_mod_cast hN ▸ le_max_left v lt
    linarith
  have hhi : (N : α) ≤ n + e := by
    rcases max_choice v lt with h | h <;> rw [← hN, h]
    · linarith
    · have : (lt : α) ≤ n := by exact_mod_cast hfloor
      linarith
  rcases hlen with rfl | rfl
  · exact ⟨by linarith, hhi⟩
  · push_cast
    exact ⟨by linarith, by linarith⟩

/-- **C08 for one cluster, end to end in the model.**  `Forest.init` on a table of `N ≥ 1` rows, each row with its own non-null entity id
(unique-id counters), then `materialize_tree` over any combination of its columns (`SingleClustering`: all of them; also what
every column contributes under per-column patching): whatever the data, the salt, the fitted convertors and the two RNG streams,
* the table is empty only if `N < low_threshold + (low_mean_gap + 8.5)·layer_sd`;
* otherwise it has between `N − 1 − (17·layer_noise_sd + ½)` and `N + 17·layer_noise_sd + ½` rows
(`low_threshold ≥ 2`, non-negative `layer_sd`, `low_mean_gap`, `layer_noise_sd`; deviates bounded by 8.5, which Box–Muller on
`u₁ ≥ 2⁻⁵²` is — `C03_boxMuller_bound`). -/
theorem C08_single_cluster_rows (E : Env α) (inp : ForestIn α) (F : Forest α) (hinit : Forest.init E inp = .ok F)
    (hn : 0 < inp.raw.size) (hkind : inp.kind = .unique) (hids : OneIdPerRow inp.pids inp.raw.size)
    (hlt : 2 ≤ inp.ap.supp.lt) (hsd : 0 ≤ inp.ap.supp.sd) (hgap : 0 ≤ inp.ap.supp.gap) (hnsd : 0 ≤ inp.ap.noiseSd)
    (hz : ∀ s, |E.z s| ≤ 17 / 2)
    (convs : List (Conv α)) (comb : List Nat) (hk : 1 ≤ comb.length) (hstream : List Nat) (mstream : List (Draw α))
    (rows : List (List (Cell α × α))) (drawn left : Nat)
    (h : materializeTree E F convs comb hstream mstream = .ok (rows, drawn, left)) :
    (rows = [] → ((inp.raw.size : Int) : α) < (inp.ap.supp.lt : α) + (inp.ap.supp.gap + 17 / 2) * inp.ap.supp.sd) ∧
    (rows ≠ [] → ((inp.raw.size : Int) : α) - 1 - (17 * inp.ap.noiseSd + 1 / 2) ≤ ((rows.length : Int) : α) ∧
      ((rows.length : Int) : α) ≤ ((inp.raw.size : Int) : α) + (17 * inp.ap.noiseSd + 1 / 2)) := by
  obtain ⟨_, hap, _, _⟩ := forest_init_ctx E inp F hinit
  rw [← hap] at hlt hsd hgap hnsd ⊢
  obtain ⟨t, ht, hr⟩ := materializeTree_rows E inp F hinit hn (by omega) convs comb hk hstream mstream rows drawn left h
  obtain ⟨s1, s2, seed, hover, hnoisy, hbranch⟩ := forest_root_unique E inp F hinit hn hkind hids 8 comb t hk ht
  rw [hover, hnoisy] at hr
  rcases hr with ⟨hr0, hsup⟩ | ⟨hrel, N, hN, hlenN⟩
  · -- nothing released: the root fails the filter
    refine ⟨fun _ => ?_, fun hne => absurd hr0 hne⟩
    by_contra hcon
    rw [C08_large_group_passes E _ _ _ s1 hsd hgap hz (not_lt.mp hcon)] at hsup
    cases hsup
  · -- something released: the released count of the root or one less, and the root holds at least `low_threshold` rows
    cases hN
    have hfloor : F.ctx.ap.supp.lt ≤ (inp.raw.size : Int) := by
      cases hl : t.isLeaf
      · exact hbranch hl
      · exact C02_pass_floor E _ _ _ (by simpa using hrel hl) (_, s1) (List.mem_singleton_self _)
    have hne : rows ≠ [] := by
      rintro rfl
      have := le_max_right (countSingle E F.ctx.ap seed (inp.raw.size : Int) s2) F.ctx.ap.supp.lt
      simp only [List.length_nil, Nat.cast_zero] at hlenN
      omega
    exact ⟨fun he => absurd he hne, fun _ =>
      rows_within _ _ _ _ _ _ rfl hlenN hfloor (C08_count_within_bound E F.ctx.ap seed s2 _ hnsd hz)⟩

/-- Non-vacuity: three rows with ids 5, 6, 7 satisfy the id hypothesis. -/
example : OneIdPerRow #[[5], [6], [7]] 3 := by
  intro r hr
  interval_cases r <;> simp

/-- the normalised table has as many rows as the input -/
theorem fitTable_size (E : Env α) (cols : List (RawCol α)) (nrows : Nat) : (fitTable E cols nrows).2.size = nrows := by
  simp [fitTable]

/-- **C08 from the typed input table.**  `Synthesizer(df, SingleClustering()).sample()` in the model — convertors fitted on the typed
columns, the table normalised, the forest built, the tree over all columns harvested and turned into microdata — for a table of
`N ≥ 1` rows with one non-null entity id per row and at least one column: the synthetic table is empty only if
`N < low_threshold + (low_mean_gap + 8.5)·layer_sd`, and otherwise has between `N − 1 − (17·layer_noise_sd + ½)` and
`N + 17·layer_noise_sd + ½` rows — whatever the column types, values, nulls, salt and RNG streams. -/
theorem C08_synthesize_single_rows (E : Env α) (cols : List (RawCol α)) (nrows : Nat) (names : List String)
    (pids : Array (List UInt64)) (ap : AnonParams α) (bp : BucketParams)
    (hn : 0 < nrows) (hc : 1 ≤ cols.length) (hids : OneIdPerRow pids nrows)
    (hlt : 2 ≤ ap.supp.lt) (hsd : 0 ≤ ap.supp.sd) (hgap : 0 ≤ ap.supp.gap) (hnsd : 0 ≤ ap.noiseSd) (hz : ∀ s, |E.z s| ≤ 17 / 2)
    (hstream : List Nat) (mstream : List (Draw α)) (rows : List (List (Cell α × α))) (drawn left : Nat)
    (h : synthesizeSingle E cols nrows names pids ap bp .unique hstream mstream = .ok (rows, drawn, left)) :
    (rows = [] → ((nrows : Int) : α) < (ap.supp.lt : α) + (ap.supp.gap + 17 / 2) * ap.supp.sd) ∧
    (rows ≠ [] → ((nrows : Int) : α) - 1 - (17 * ap.noiseSd + 1 / 2) ≤ ((rows.length : Int) : α) ∧
      ((rows.length : Int) : α) ≤ ((nrows : Int) : α) + (17 * ap.noiseSd + 1 / 2)) := by
  obtain ⟨F, hinit, hm⟩ := synthesizeSingle_ok h
  simpa only [fitTable_size] using C08_single_cluster_rows E _ F hinit (by simpa only [fitTable_size] using hn) rfl
    (by simpa only [fitTable_size] using hids) hlt hsd hgap hnsd hz _ _ (by simpa using hc) hstream mstream rows drawn left hm

/-- **C08 through `build_table`: per-column patching and left-owned stitching.**  `Forest.init` on a table of `N ≥ 1` rows with one
non-null entity id per row, then the composed `build_table` over any cluster plan whose derived clusters are patched in (no stitch
columns — `NoClustering`, i.e. per-column patching) or stitched with the left side as owner: whatever the data, the plan, the salt
and every RNG stream (the main one, and the two derived ones of every materialised cluster), the assembled table has exactly the rows
of the initial cluster's microtable (`buildTable_rows`: `_do_patch` and a left-owned `_do_stitch` keep the left rows), hence
* it is empty only if `N < low_threshold + (low_mean_gap + 8.5)·layer_sd`;
* otherwise it has between `N − 1 − (17·layer_noise_sd + ½)` and `N + 17·layer_noise_sd + ½` rows. -/
theorem C08_patched_table_rows (E : Env α) (inp : ForestIn α) (F : Forest α) (hinit : Forest.init E inp = .ok F)
    (hn : 0 < inp.raw.size) (hkind : inp.kind = .unique) (hids : OneIdPerRow inp.pids inp.raw.size)
    (hlt : 2 ≤ inp.ap.supp.lt) (hsd : 0 ≤ inp.ap.supp.sd) (hgap : 0 ≤ inp.ap.supp.gap) (hnsd : 0 ≤ inp.ap.noiseSd)
    (hz : ∀ s, |E.z s| ≤ 17 / 2)
    (convs : List (Conv α)) (isIntegral : List Bool) (entropy : List α) (threshRel : α) (cl : Clusters)
    (hini : 1 ≤ cl.initial.length) (hown : ∀ dc ∈ cl.derivedClusters, dc.stitch = [] ∨ dc.owner = .left)
    (streams : List (List Nat × List (Draw α))) (s s' : List (Draw α)) (res : MTable (Cell α) α)
    (h : (buildTable E F convs isIntegral entropy threshRel cl streams).run s = .ok (res, s')) :
    (res.1 = [] → ((inp.raw.size : Int) : α) < (inp.ap.supp.lt : α) + (inp.ap.supp.gap + 17 / 2) * inp.ap.supp.sd) ∧
    (res.1 ≠ [] → ((inp.raw.size : Int) : α) - 1 - (17 * inp.ap.noiseSd + 1 / 2) ≤ ((res.1.length : Int) : α) ∧
      ((res.1.length : Int) : α) ≤ ((inp.raw.size : Int) : α) + (17 * inp.ap.noiseSd + 1 / 2)) := by
  obtain ⟨init, s0, hm, hlen⟩ := buildTable_rows E F convs isIntegral entropy threshRel cl streams s s' res hown h
  obtain ⟨_, drawn, left, hmt⟩ := materializeGM_tree E F convs _ _ _ _ _ hm
  have hk : 1 ≤ (sortAscStable (fun a b => decide (a < b)) cl.initial).length := by rw [sortAscStable_length]; exact hini
  have := C08_single_cluster_rows E inp F hinit hn hkind hids hlt hsd hgap hnsd hz convs _ hk _ _ init.1 drawn left hmt
  have he : res.1 = [] ↔ init.1 = [] := by
    rw [← List.length_eq_zero_iff, ← List.length_eq_zero_iff, hlen]
  rw [hlen]
  exact ⟨fun h0 => this.1 (he.mp h0), fun h0 => this.2 (fun h1 => h0 (he.mpr h1))⟩

/-- Non-vacuity: the plan of `NoClustering` over three columns — initial cluster `[0]`, columns 1 and 2 patched in — meets the plan
hypotheses. -/
example : let cl : Clusters := { initial := [0], derivedClusters := [⟨.shared, [], [1]⟩, ⟨.shared, [], [2]⟩] }
    1 ≤ cl.initial.length ∧ ∀ dc ∈ cl.derivedClusters, dc.stitch = [] ∨ dc.owner = .left := by
  simp

/-- the plan of `NoClustering` meets the hypotheses of `C08_patched_table_rows`, for any number of columns -/
theorem noClusteringPlan_patched (n : Nat) :
    1 ≤ (noClusteringPlan n).initial.length ∧ ∀ dc ∈ (noClusteringPlan n).derivedClusters, dc.stitch = [] ∨ dc.owner = .left := by
  refine ⟨by simp [noClusteringPlan], fun dc hdc => ?_⟩
  simp only [noClusteringPlan, List.mem_map] at hdc
  obtain ⟨i, _, rfl⟩ := hdc
  exact Or.inl rfl

/-- **C08 from the typed input table, per-column patching.**  `Synthesizer(df, NoClustering()).sample()` in the model — convertors fitted
on the typed columns, the table normalised, the forest built, the first column's tree harvested and turned into microdata, every other
column's microtable patched on — for a table of `N ≥ 1` rows with one non-null entity id per row: the synthetic table is empty only if
`N < low_threshold + (low_mean_gap + 8.5)·layer_sd`, and otherwise has between `N − 1 − (17·layer_noise_sd + ½)` and
`N + 17·layer_noise_sd + ½` rows — whatever the column types, values, nulls, salt and every RNG stream. More generally for any plan whose
derived clusters are patched in or stitched with the left side as owner. -/
theorem C08_synthesize_patched_rows (E : Env α) (cols : List (RawCol α)) (nrows : Nat) (names : List String)
    (pids : Array (List UInt64)) (ap : AnonParams α) (bp : BucketParams)
    (hn : 0 < nrows) (hids : OneIdPerRow pids nrows)
    (hlt : 2 ≤ ap.supp.lt) (hsd : 0 ≤ ap.supp.sd) (hgap : 0 ≤ ap.supp.gap) (hnsd : 0 ≤ ap.noiseSd) (hz : ∀ s, |E.z s| ≤ 17 / 2)
    (isIntegral : List Bool) (entropy : List α) (threshRel : α) (cl : Clusters)
    (hini : 1 ≤ cl.initial.length) (hown : ∀ dc ∈ cl.derivedClusters, dc.stitch = [] ∨ dc.owner = .left)
    (streams : List (List Nat × List (Draw α))) (s s' : List (Draw α)) (res : MTable (Cell α) α)
    (h : (synthesizePlan E cols nrows names pids ap bp .unique isIntegral entropy threshRel cl streams).run s = .ok (res, s')) :
    (res.1 = [] → ((nrows : Int) : α) < (ap.supp.lt : α) + (ap.supp.gap + 17 / 2) * ap.supp.sd) ∧
    (res.1 ≠ [] → ((nrows : Int) : α) - 1 - (17 * ap.noiseSd + 1 / 2) ≤ ((res.1.length : Int) : α) ∧
      ((res.1.length : Int) : α) ≤ ((nrows : Int) : α) + (17 * ap.noiseSd + 1 / 2)) := by
  obtain ⟨F, hinit, hb⟩ := synthesizePlan_ok h
  simpa only [fitTable_size] using C08_patched_table_rows E _ F hinit (by simpa only [fitTable_size] using hn) rfl
    (by simpa only [fitTable_size] using hids) hlt hsd hgap hnsd hz _ isIntegral entropy threshRel cl hini hown streams s s' res hb

/-- `Synthesizer(df, NoClustering()).sample()`: the instance of the above for the plan `NoClustering` builds. -/
theorem C08_synthesize_noClustering_rows (E : Env α) (cols : List (RawCol α)) (nrows : Nat) (names : List String)
    (pids : Array (List UInt64)) (ap : AnonParams α) (bp : BucketParams)
    (hn : 0 < nrows) (hids : OneIdPerRow pids nrows)
    (hlt : 2 ≤ ap.supp.lt) (hsd : 0 ≤ ap.supp.sd) (hgap : 0 ≤ ap.supp.gap) (hnsd : 0 ≤ ap.noiseSd) (hz : ∀ s, |E.z s| ≤ 17 / 2)
    (isIntegral : List Bool) (entropy : List α) (threshRel : α)
    (streams : List (List Nat × List (Draw α))) (s s' : List (Draw α)) (res : MTable (Cell α) α)
    (h : (synthesizePlan E cols nrows names pids ap bp .unique isIntegral entropy threshRel (noClusteringPlan cols.length) streams).run s = .ok (res, s')) :
    (res.1 = [] → ((nrows : Int) : α) < (ap.supp.lt : α) + (ap.supp.gap + 17 / 2) * ap.supp.sd) ∧
    (res.1 ≠ [] → ((nrows : Int) : α) - 1 - (17 * ap.noiseSd + 1 / 2) ≤ ((res.1.length : Int) : α) ∧
      ((res.1.length : Int) : α) ≤ ((nrows : Int) : α) + (17 * ap.noiseSd + 1 / 2)) :=
  C08_synthesize_patched_rows E cols nrows names pids ap bp hn hids hlt hsd hgap hnsd hz isIntegral entropy threshRel _
    (noClusteringPlan_patched cols.length).1 (noClusteringPlan_patched cols.length).2 streams s s' res h

end
