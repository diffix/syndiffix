import Props.C10
import Props.C11
import Props.C18
import SdxModel.Convert
import SdxProofs.ValueMap
set_option linter.unusedSectionVars false
/-!
# C09 — Anonymization is the only distortion: well-populated data reproduced exactly

The model-level facts behind exact reproduction: a node whose tight range is a single point releases that point,
not its snapped range; a draw from a single-point range is that point; rescaling by ratio 1 changes nothing;
the null range decodes to a null. That every leaf of every tree is a single point holding all rows of its value
combination when every combination is held by `range_low_threshold` entities and the noise is off (T09.a) is not yet
a Lean theorem (partial); the decoding of numbers back to the original value rests on floating-point behaviour of
scikit-learn / `round` (validated cell-exactly by S-micro, not proved).
-/

section
variable {α : Type} [Field α] [LinearOrder α] [IsStrictOrderedRing α] [FloorRing α] [Inhabited α]

/-- a singular node releases its tight ranges, i.e. the exact values -/
theorem C09_singular_releases_values (n : Node α) (h : n.isSing = true)
    (hlen : n.data.snapped.length = n.data.actual.length) : n.bucketIntervals = n.data.actual := by
  refine List.ext_getElem (by rw [Node.bucketIntervals, List.length_zipWith, hlen, Nat.min_self]) fun i _ h2 => ?_
  simp only [Node.bucketIntervals, List.getElem_zipWith]
  exact if_pos (List.all_eq_true.mp h _ (List.getElem_mem h2))

/-- a draw from a single-point range is that point, for every RNG state -/
theorem C09_singular_draw_exact (v u : α) : uniformAt v v u = v := by
  unfold uniformAt; rw [sub_self, zero_mul, add_zero]

/-- rescaling to the same total changes no count (ratio 1: no carry ever accumulates) -/
theorem C09_rescale_identity (cs : List Int) (total : Int) (hcs : ∀ c ∈ cs, 0 ≤ c) (hpos : 0 < total) :
    adjustCountsPure (α := α) cs total total = cs := by
  rw [adjustCountsPure_eq, div_self (Int.cast_ne_zero.mpr hpos.ne'), adjustLoop_one]

theorem mem_allRows_branch {d : NodeData α} {s : List (Option (Node α))} {ch : List (Nat × Node α)} {r : Nat}
    (h : r ∈ (Node.branch d s ch).allRows) : ∃ p ∈ ch, r ∈ p.2.allRows := by
  rw [Node.allRows_branch, List.mem_flatten] at h
  obtain ⟨l, hl, hr⟩ := h
  obtain ⟨p, hp, rfl⟩ := List.mem_map.mp hl
  exact ⟨p, hp, hr⟩

/-- T09.a (completeness half)  in a tree satisfying the invariant, two rows with the same values in the tree's columns sit
in the same leaf: a leaf holds *all* rows of each value combination it holds. -/
theorem C09_equal_rows_same_leaf (E : Env α) (c : FCtx α) (root : List (Ival α)) :
    ∀ (t : Node α), TInv E c root t → ∀ r r', r ∈ t.allRows → r' ∈ t.allRows →
      c.vals t.data.comb r = c.vals t.data.comb r' →
      ∃ d s rows, Node.Sub (.leaf d s rows) t ∧ r ∈ rows ∧ r' ∈ rows := by
  intro t hT
  unfold TInv at hT
  generalize hex : ([] : List Nat) = ex at hT
  induction hT with
  | leaf extra d subs rows hN =>
    intro r r' hr hr' _
    rw [Node.allRows_leaf] at hr hr'
    exact ⟨d, subs, rows, Node.Sub.refl _, hr, hr'⟩
  | branch extra d subs ch hN hB hC ih =>
    intro r r' hr hr' hv
    obtain ⟨p, hp, hrp⟩ := mem_allRows_branch hr
    obtain ⟨q, hq, hrq⟩ := mem_allRows_branch hr'
    have h1 := hB.route p hp r hrp
    have h2 := hB.route q hq r' hrq
    simp only [Node.data] at hv
    rw [hv] at h1
    have hkey : p.1 = q.1 := h1.symm.trans h2
    have hpq : p = q := List.inj_on_of_nodup_map hB.keys hp hq hkey
    subst hpq
    have hcomb : p.2.data.comb = d.comb := (hB.child p hp).1
    obtain ⟨d', s', rows', hsub, m1, m2⟩ := ih p hp rfl r r' hrp hrq (by rw [hcomb]; exact hv)
    exact ⟨d', s', rows', Node.Sub.child _ d subs ch p hp hsub, m1, m2⟩


/-! ## Decoding is the inverse of encoding (the fitted convertors of `SdxModel/Convert.lean`)

`Synthesizer.__init__` fits one convertor per column and normalises the column with it; `from_interval` decodes a released
range. For a single-point range — what a well-populated value is released as (`C09_singular_releases_values`) — the decoded
value is the original one, for every RNG state: exactly over an ordered field (the executable `Float` instance of the same
definitions is compared with scikit-learn / `round` bit for bit by stream S-sampleRaw). -/

/-- the fitted scale factor is positive, whatever the column holds -/
theorem fitScaler_scale_pos (vals : List α) : 0 < (fitScaler vals).2 := by
  have pos : ∀ {n : Int}, 0 < n → (0 : α) < ofInt n := Int.cast_pos.mpr
  cases vals with
  | nil => exact pos Int.one_pos
  | cons v vs =>
    -- `0.9999 / range'`, where `range'` is 1 or at least `10·eps`
    refine div_pos (div_pos (pos (by decide)) (pos (by decide))) ?_
    split
    · exact pos Int.one_pos
    · next h => exact lt_of_lt_of_le (div_pos (pos (by decide)) (pos (by decide))) (not_lt.mp h)

/-- `inverse_transform ∘ transform = id` for every scaler with a non-zero scale -/
theorem C09_scale_inverse (m s x : α) (hs : s ≠ 0) : inverseNormalize m s (scaleValue m s x) = x := by
  unfold inverseNormalize scaleValue
  rw [add_sub_cancel_right, mul_div_cancel_right₀ _ hs]

/-- T09.b (reals): before the final `round(value, precision)` the decoded value is the original one -/
theorem C09_real_roundtrip (vals : List α) (x u : α) :
    inverseNormalize (fitScaler vals).1 (fitScaler vals).2
      (uniformAt (scaleValue (fitScaler vals).1 (fitScaler vals).2 x) (scaleValue (fitScaler vals).1 (fitScaler vals).2 x) u) = x := by
  rw [C09_singular_draw_exact, C09_scale_inverse _ _ _ (fitScaler_scale_pos vals).ne']

/-- T09.b (integers, timestamps in whole seconds): the single-point range a value was normalised to decodes to that value -/
theorem C09_int_roundtrip (vals : List α) (i : Int) (u : α) :
    (ScalarOps.roundHE (inverseNormalize (fitScaler vals).1 (fitScaler vals).2
      (uniformAt (scaleValue (fitScaler vals).1 (fitScaler vals).2 (ofInt i)) (scaleValue (fitScaler vals).1 (fitScaler vals).2 (ofInt i)) u)) : Int) = i := by
  rw [C09_real_roundtrip, ofInt_eq, roundHE_intCast]

/-- T09.b (booleans) -/
theorem C09_bool_roundtrip (b : Bool) (u : α) :
    decide ((ofInt 1 : α) / ofInt 2 ≤ uniformAt (if b then ofInt 1 else ofInt 0) (if b then ofInt 1 else ofInt 0) u) = b := by
  rw [C09_singular_draw_exact]
  cases b
  · simp
  · simp only [ofInt_eq, if_true, decide_eq_true_eq]; norm_num

/-- T09.b (strings): the code of a string of the column indexes that string in the fitted value map, which is sorted and
duplicate-free (so the mask-prefix theorem `C11_mask_prefix_covers_range` applies to every fitted convertor) -/
theorem C09_string_roundtrip (v : List (Option String)) (x : String) (hx : some x ∈ v) :
    (valueMapOf v)[(ScalarOps.trunc (ofInt (((valueMapOf v).idxOf x : Nat) : Int) : α)).toNat]? = some x ∧
    SortedStrings (valueMapOf v) := by
  rw [ofInt_eq, trunc_intCast, Int.toNat_natCast]
  exact ⟨valueMapOf_roundtrip v x hx, valueMapOf_sorted v⟩

/-- Non-vacuity: the value map of a small column, and the code of one of its strings. -/
example : valueMapOf [some "b", none, some "a", some "b"] = ["a", "b"] ∧ (valueMapOf [some "b", none, some "a", some "b"]).idxOf "b" = 1 := by decide

end
