import SdxProofs.BucketLemmas
import SdxProofs.MonadLemmas
import SdxProofs.HarvestLemmas
import Props.C18
set_option linter.unusedSectionVars false
/-!
# C10 — Bucket counts conserve the released total; microdata realises them exactly

Proved for all inputs: the rescaling step (carry loop) for every bucket-count list and target, over any
ordered field with floor; the final positivity filter; one microdata row per unit of bucket count.
The conservation through the whole harvest recursion (children rescaled to the parent's released count,
refinement adds exactly the uncovered remainder) is `C10_harvest_conservation`, a projection of `harvest_spec`
(`SdxProofs/HarvestLemmas.lean`); the oracle also evaluates it on every real bucket list.
-/

section
variable {α : Type} [Field α] [LinearOrder α] [IsStrictOrderedRing α] [FloorRing α]

/-- T10.a  Rescaling non-negative counts with positive sum `current` to an integer target `≥ 0` yields
non-negative counts, as many as before, summing to the target or one less. -/
theorem C10_adjust_sum (cs : List Int) (current target : Int) (hcs : ∀ c ∈ cs, 0 ≤ c) (hsum : cs.sum = current)
    (hpos : 0 < current) (ht : 0 ≤ target) :
    (∀ x ∈ adjustCountsPure (α := α) cs current target, 0 ≤ x) ∧
    (adjustCountsPure (α := α) cs current target).length = cs.length ∧
    ((adjustCountsPure (α := α) cs current target).sum = target ∨
     (adjustCountsPure (α := α) cs current target).sum = target - 1) :=
  C10_adjust_sum_core cs current target hcs hsum hpos ht

/-- every bucket `harvest` returns has a positive count (whatever the tree, parameters and RNG stream) -/
theorem C10_harvest_positive [Inhabited α] (E : Env α) (c : FCtx α) (root : Node α) (stream : List Nat)
    (bs : List (BCell α)) (n : Nat) (h : harvest E c root stream = .ok (bs, n)) : ∀ b ∈ bs, 0 < b.count := by
  unfold harvest at h
  split at h
  · cases h
  · rename_i ids s _
    simp only [Except.ok.injEq, Prod.mk.injEq] at h
    intro b hb
    rw [← h.1] at hb
    simpa using (List.mem_filter.mp hb).2

/-- T10.c  microdata generation emits exactly one row per unit of bucket count (when it succeeds, for every
RNG stream and every convertor). -/
theorem C10_microdata_rows [Inhabited α] (E : Env α) (convs : List (Conv α)) (nullMaps : List α) (buckets : List (BCell α))
    (stream rest : List (Draw α)) (rows : List (List (Cell α × α)))
    (h : (generateMicrodata E convs nullMaps buckets).run stream = .ok (rows, rest)) :
    rows.length = (buckets.map fun b => b.count.toNat).sum := by
  obtain ⟨rs, rfl, hall⟩ := generateMicrodata_ok E convs nullMaps buckets stream rest rows h
  rw [List.length_flatten]
  clear h
  induction hall with
  | nil => rfl
  | cons hab _ ih => simp only [List.map_cons, List.sum_cons, hab.1, ih]

theorem sum_filter_pos_cells [Inhabited α] (l : List (BCell α)) (h : ∀ b ∈ l, 0 ≤ b.count) :
    ((l.filter (fun b => decide (b.count > 0))).map (fun b => b.count)).sum = (l.map (fun b => b.count)).sum := by
  induction l with
  | nil => rfl
  | cons a l ih =>
    have ha := h a (by simp)
    have ih' := ih (fun x hx => h x (by simp [hx]))
    by_cases hp : a.count > 0
    · simp [List.filter_cons, hp, ih']
    · have : a.count = 0 := by omega
      simp [List.filter_cons, this, ih']

/-- T10 (whole harvest, with the reason for an empty release): as `C10_harvest_conservation`, and when nothing at all is
released the root itself fails the low-count filter on the rows it holds (it is a suppressed leaf); otherwise the root is a
branch or a leaf that passes the filter, and the counts add up to its released count or one less. -/
theorem C10_harvest_conservation_strong [Inhabited α] (E : Env α) (c : FCtx α) (hlt : 0 ≤ c.ap.supp.lt) (root : Node α)
    (hsh : Shape root) (stream : List Nat) (bs : List (BCell α)) (n : Nat) (h : harvest E c root stream = .ok (bs, n)) :
    (bs = [] ∧ root.overThreshold E c c.ap.supp.lt = false) ∨
      (root.isLeaf = true → root.overThreshold E c c.ap.supp.lt = true) ∧ ∃ N, root.noisyCount E c = .ok N ∧ ((bs.map (·.count)).sum = N ∨ (bs.map (·.count)).sum = N - 1) := by
  obtain ⟨ids, s, rfl, hG, hgood, hcons⟩ := harvest_spec E c hlt root hsh stream bs n h
  refine hcons.imp (fun ⟨hids, hsup⟩ => ⟨by simp [hids], hsup⟩) (fun ⟨hrel, N, hN, hsum⟩ => ⟨hrel, N, hN, ?_⟩)
  rwa [sum_filter_pos_cells _ fun b hb => by
    obtain ⟨id, hid, rfl⟩ := List.mem_map.mp hb
    exact hG.1 id (hgood.2 id hid).1, List.map_map]

/-- T10.b  Conservation through the whole harvest — every tree shape, every mixture of suppressed leaves, cached
sub-trees, refinement and in-place rescaling of shared bucket objects, every RNG stream: the buckets `harvest` returns
for a well-shaped tree (`Shape`: what every tree a forest hands out satisfies, `C18_forest_tree`) are either none at all
or their counts add up to the root's released count or one less. (`low_threshold ≥ 0`.) -/
theorem C10_harvest_conservation [Inhabited α] (E : Env α) (c : FCtx α) (hlt : 0 ≤ c.ap.supp.lt) (root : Node α)
    (hsh : Shape root) (stream : List Nat) (bs : List (BCell α)) (n : Nat) (h : harvest E c root stream = .ok (bs, n)) :
    bs = [] ∨ ∃ N, root.noisyCount E c = .ok N ∧ ((bs.map (·.count)).sum = N ∨ (bs.map (·.count)).sum = N - 1) := by
  rcases C10_harvest_conservation_strong E c hlt root hsh stream bs n h with ⟨h1, _⟩ | ⟨_, h2⟩
  · exact Or.inl h1
  · exact Or.inr h2

/-- T10 (shape)  every bucket `harvest` returns has exactly as many ranges as the tree has columns, and each range is
the released range (`bucket_intervals`) — for that very column — of a node reachable from the tree (a node of the tree,
or of a lower-dimensional tree through sub-nodes) that is a branch or a leaf passing the low-count filter. -/
theorem C10_bucket_ranges [Inhabited α] (E : Env α) (c : FCtx α) (hlt : 0 ≤ c.ap.supp.lt) (root : Node α)
    (hsh : Shape root) (stream : List Nat) (bs : List (BCell α)) (n : Nat) (h : harvest E c root stream = .ok (bs, n)) :
    ∀ b ∈ bs, b.ivs.length = root.data.comb.length ∧
      ∀ pos < b.ivs.length, RangeOK E c root (root.data.comb.getD pos 0) (b.ivs.getD pos default) := by
  obtain ⟨ids, s, rfl, hG, hgood, -⟩ := harvest_spec E c hlt root hsh stream bs n h
  intro b hb
  obtain ⟨id, hid, rfl⟩ := List.mem_map.mp (List.mem_filter.mp hb).1
  have hok := hG.2.2 id (hgood.2 id hid).1
  rwa [CellOK, show (s.cells[id]!).owner.1 = root.data.comb from (hgood.2 id hid).2.1] at hok

/-- T10.b for the trees a forest hands out: whenever `Forest.__init__` and `Forest.get_tree(comb)` finish and the harvest
of that tree finishes, the buckets are none at all, or add up to the tree's released root count or one less. -/
theorem C10_forest_harvest_conservation [Inhabited α] (E : Env α) (inp : ForestIn α) (F : Forest α)
    (hinit : Forest.init E inp = .ok F) (hn : 0 < inp.raw.size) (hlt : 0 ≤ F.ctx.ap.supp.lt) (fuel : Nat) (comb : List Nat)
    (hk : 1 ≤ comb.length) (t : Node α) (ht : F.tree? E fuel comb = some t) (stream : List Nat) (bs : List (BCell α)) (n : Nat)
    (h : harvest E F.ctx t stream = .ok (bs, n)) :
    bs = [] ∨ ∃ N, t.noisyCount E F.ctx = .ok N ∧ ((bs.map (·.count)).sum = N ∨ (bs.map (·.count)).sum = N - 1) :=
  C10_harvest_conservation E F.ctx hlt t (C18_forest_tree E inp F hinit hn fuel comb t hk ht).1.2.2 stream bs n h

/-- Non-vacuity: `[3,4,5]` sums to 12 > 0 and all counts are non-negative. -/
example : (∀ c ∈ ([3, 4, 5] : List Int), 0 ≤ c) ∧ ([3, 4, 5] : List Int).sum = 12 := by decide

end
