import SdxProofs.Field
import SdxProofs.MonadLemmas
import SdxProofs.PrefixLemma
import SdxProofs.ValueMap
import Mathlib.Tactic.Linarith
set_option linter.unusedSectionVars false
/-!
# C11 — Every generated value lies inside the released range of its bucket

Over exact arithmetic, for every RNG state (`u ∈ [0,1)` arbitrary, `randint` result arbitrary within its bounds).
The decoding back to original units (`(v - min_)/scale_`, rounding) is monotone affine + rounding; that the
fitted coefficients are those scikit-learn computes is in the trusted base (validated by S-micro).
-/

section
variable {α : Type} [Field α] [LinearOrder α] [IsStrictOrderedRing α] [FloorRing α] [Inhabited α]

/-- T11.a  the drawn point lies in the range; a singular range yields exactly its value. -/
theorem C11_uniform_in_range (lo hi u : α) (h : lo ≤ hi) (hu0 : 0 ≤ u) (hu1 : u < 1) :
    lo ≤ uniformAt lo hi u ∧ uniformAt lo hi u ≤ hi ∧ (lo < hi → uniformAt lo hi u < hi) ∧ (lo = hi → uniformAt lo hi u = lo) := by
  unfold uniformAt
  have hw : 0 ≤ hi - lo := sub_nonneg.mpr h
  refine ⟨le_add_of_nonneg_right (mul_nonneg hw hu0), ?_, fun hlt => ?_, fun he => by rw [he, sub_self, zero_mul, add_zero]⟩
  · exact (add_le_add_right (mul_le_of_le_one_right hw hu1.le) lo).trans_eq (add_sub_cancel _ _)
  · exact (add_lt_add_right (mul_lt_of_lt_one_right (sub_pos.mpr hlt) hu1) lo).trans_eq (add_sub_cancel _ _)

/-- T11.a  the null range decodes to a null, without consuming randomness. -/
theorem C11_null_range (E : Env α) (conv : Conv α) (nullMap : α) (iv : Ival α) (h : iv.lo = nullMap) (s : List (Draw α)) :
    (generateCell E conv nullMap iv).run s = .ok ((.null, nullMap), s) := by
  simp [generateCell, h, pure, StateT.pure, Except.pure, StateT.run]

/-- T11.b  decoding is monotone: a point of the range maps between the decoded ends of the range (positive scale). -/
theorem C11_inverse_monotone (minS scaleS lo hi v : α) (hs : 0 < scaleS) (h1 : lo ≤ v) (h2 : v ≤ hi) :
    inverseNormalize minS scaleS lo ≤ inverseNormalize minS scaleS v ∧
    inverseNormalize minS scaleS v ≤ inverseNormalize minS scaleS hi := by
  unfold inverseNormalize
  constructor <;> (apply div_le_div_of_nonneg_right _ (le_of_lt hs); linarith)

/-- T11.b  rounding to the nearest integer moves a value by at most one half. -/
theorem C11_round_half (x : α) : |((ScalarOps.roundHE x : Int) : α) - x| ≤ 1 / 2 := by
  have h1 := Int.lt_floor_add_one x
  rw [abs_sub_le_iff]
  rcases roundHE_cases x with ⟨h, hx⟩ | ⟨h, hx⟩ <;> rw [h]
  · exact ⟨(sub_nonpos.mpr (Int.floor_le x)).trans one_half_pos.le, hx⟩
  · rw [Int.cast_add, Int.cast_one]
    exact ⟨by linarith, (sub_neg.mpr h1).le.trans one_half_pos.le⟩

/-- T11.c  the string index is drawn from `[⌊lo⌋, max(⌊lo⌋, min(⌊hi⌋−1, n−1))]`: never below the start of the
range, below its end whenever the range spans at least one whole index, and below `n` whenever `⌊lo⌋ < n`. -/
theorem C11_string_index_range (iv : Ival α) (n : Nat) (v : Int)
    (h : (stringIndexRange iv n).1 ≤ v ∧ v ≤ (stringIndexRange iv n).2) :
    ScalarOps.trunc iv.lo ≤ v ∧
    (ScalarOps.trunc iv.lo < ScalarOps.trunc iv.hi → v < ScalarOps.trunc iv.hi) ∧
    (ScalarOps.trunc iv.lo < (n : Int) → v < (n : Int)) := by
  simp only [stringIndexRange] at h
  refine ⟨h.1, fun hlt => ?_, fun hlt => ?_⟩ <;> omega

/-- T11.c  a verbatim string is only ever `valueMap[v]` for a drawn index `v` that is marked safe, and a masked
string is `commonPrefix(valueMap[first], valueMap[last]) ++ "*" ++ index`, with `v` inside the index range. -/
theorem C11_string_result (valueMap : List String) (safe : List Nat) (iv : Ival α) (s s' : List (Draw α))
    (cell : Cell α) (f : α) (h : (mapStringInterval valueMap safe iv).run s = .ok ((cell, f), s')) :
    ∃ v : Nat, (stringIndexRange iv valueMap.length).1 ≤ (v : Int) ∧ (v : Int) ≤ (stringIndexRange iv valueMap.length).2 ∧
      f = ((v : Int) : α) ∧
      ((v ∈ safe ∧ ∃ str, valueMap[v]? = some str ∧ cell = .str str) ∨
       (v ∉ safe ∧ ∃ a b, valueMap[(stringIndexRange iv valueMap.length).1.toNat]? = some a ∧
          valueMap[(stringIndexRange iv valueMap.length).2.toNat]? = some b ∧
          cell = .str (String.ofList (commonPrefix a.toList b.toList) ++ "*" ++ toString v))) := by
  unfold mapStringInterval at h
  simp only [StateT.run_bind] at h
  cases hd : (drawInt (α := α) (stringIndexRange iv valueMap.length).1 (stringIndexRange iv valueMap.length).2).run s with
  | error e => rw [hd] at h; simp [bind, Except.bind] at h
  | ok p =>
    obtain ⟨v, s1⟩ := p
    rw [hd] at h
    simp only [bind, Except.bind] at h
    have hv := drawInt_ok _ _ s s1 v hd
    refine ⟨v, hv.1, hv.2.1, ?_⟩
    split_ifs at h with hs hneg
    · cases hvm : valueMap[v]? with
      | none => rw [hvm] at h; simp [throw, throwThe, MonadExceptOf.throw, StateT.lift, bind, Except.bind] at h
      | some str =>
        rw [hvm] at h
        simp only [pure, StateT.pure, Except.pure, Except.ok.injEq, Prod.mk.injEq] at h
        obtain ⟨⟨rfl, rfl⟩, _⟩ := h
        exact ⟨by simp, Or.inl ⟨by simpa using hs, str, rfl, rfl⟩⟩
    · simp [throw, throwThe, MonadExceptOf.throw, StateT.lift, bind, Except.bind] at h
    · cases ha : valueMap[(stringIndexRange iv valueMap.length).1.toNat]? with
      | none => rw [ha] at h; simp [throw, throwThe, MonadExceptOf.throw, StateT.lift, bind, Except.bind] at h
      | some a =>
        cases hb : valueMap[(stringIndexRange iv valueMap.length).2.toNat]? with
        | none => rw [ha, hb] at h; simp [throw, throwThe, MonadExceptOf.throw, StateT.lift, bind, Except.bind] at h
        | some b =>
          rw [ha, hb] at h
          simp only [pure, StateT.pure, Except.pure, Except.ok.injEq, Prod.mk.injEq] at h
          obtain ⟨⟨rfl, rfl⟩, _⟩ := h
          exact ⟨by simp, Or.inr ⟨by simpa using hs, a, b, rfl, rfl, rfl⟩⟩

/-- the common prefix is a prefix of both strings -/
theorem commonPrefix_prefix (a b : List Char) : commonPrefix a b <+: a ∧ commonPrefix a b <+: b := by
  induction a generalizing b with
  | nil => simp [commonPrefix]
  | cons x xs ih =>
    cases b with
    | nil => simp [commonPrefix]
    | cons y ys =>
      unfold commonPrefix
      split_ifs with h
      · have := ih ys
        simp only [beq_iff_eq] at h; subst h
        exact ⟨List.prefix_cons_inj _ |>.mpr this.1, List.prefix_cons_inj _ |>.mpr this.2⟩
      · simp

/-- Non-vacuity: `[0, 8)` over ℚ and `u = 1/4`. -/
example : (0 : ℚ) ≤ 8 ∧ (0 : ℚ) ≤ 1 / 4 ∧ (1 / 4 : ℚ) < 1 := by norm_num

/-- T11.c'  the mask never misdescribes the range: when a masked string is produced from a sorted value map
(`sorted(set(values))`, code-point order), the text before the `*` is a prefix of *every* string whose index lies in
the range the index was drawn from — in particular of the string the drawn index stands for. -/
theorem C11_mask_prefix_covers_range (valueMap : List String) (hsorted : SortedStrings valueMap) (safe : List Nat)
    (iv : Ival α) (s s' : List (Draw α)) (cell : Cell α) (f : α)
    (h : (mapStringInterval valueMap safe iv).run s = .ok ((cell, f), s')) :
    (∃ str, cell = .str str ∧ ∃ v ∈ safe, valueMap[v]? = some str) ∨
    (∃ pre : List Char, ∃ v : Nat, cell = .str (String.ofList pre ++ "*" ++ toString v) ∧
      ∀ k x, (stringIndexRange iv valueMap.length).1.toNat ≤ k → k ≤ (stringIndexRange iv valueMap.length).2.toNat →
        valueMap[k]? = some x → pre <+: x.toList) := by
  obtain ⟨v, _, _, _, hc⟩ := C11_string_result valueMap safe iv s s' cell f h
  rcases hc with ⟨hs, str, h1, h2⟩ | ⟨_, a, b, ha, hb, h3⟩
  · exact Or.inl ⟨str, h2, v, hs, h1⟩
  · refine Or.inr ⟨commonPrefix a.toList b.toList, v, h3, ?_⟩
    intro k x hk1 hk2 hx
    exact mask_prefix_covers valueMap hsorted _ k _ a x b hk1 hk2 ha hx hb

/-- T11.c''  the same without a hypothesis, for the value map `StringConvertor.__init__` fits on any column
(`valueMapOf`, `SdxModel/Convert.lean`: sorted and duplicate-free by `valueMapOf_sorted`). -/
theorem C11_mask_prefix_fitted (column : List (Option String)) (safe : List Nat)
    (iv : Ival α) (s s' : List (Draw α)) (cell : Cell α) (f : α)
    (h : (mapStringInterval (valueMapOf column) safe iv).run s = .ok ((cell, f), s')) :
    (∃ str, cell = .str str ∧ ∃ v ∈ safe, (valueMapOf column)[v]? = some str) ∨
    (∃ pre : List Char, ∃ v : Nat, cell = .str (String.ofList pre ++ "*" ++ toString v) ∧
      ∀ k x, (stringIndexRange iv (valueMapOf column).length).1.toNat ≤ k → k ≤ (stringIndexRange iv (valueMapOf column).length).2.toNat →
        (valueMapOf column)[k]? = some x → pre <+: x.toList) :=
  C11_mask_prefix_covers_range (valueMapOf column) (valueMapOf_sorted column) safe iv s s' cell f h

end
