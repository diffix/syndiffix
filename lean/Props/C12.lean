import SdxProofs.StitchCount
set_option linter.unusedSectionVars false
/-!
# C12 — Stitching only recombines real rows and honours the stitch owner

Rows are opaque (`β` arbitrary); the RNG stream is arbitrary (every shuffle and every draw the implementation could
make). T12.a/b/d use no arithmetic at all; T12.c is over an ordered field with the balance threshold 7/10.
Inputs the implementation rejects (`ValueError`: no stitch / derived columns, empty right side, an empty side in a
terminal merge) are the model's error branches and are excluded by the success hypothesis.
-/

section
variable {α : Type} [Add α] [Sub α] [Mul α] [Div α] [LT α] [LE α] [BEq α]
  [DecidableLT α] [DecidableLE α] [ScalarOps α] [Inhabited α]
variable {β : Type} [Inhabited β]

/-- T12.a  what a merged row is: a private column comes from the row of its side, a shared column from the picked side. -/
theorem C12_mergeRow_cells (cols : List ColumnLocation) (pick : Bool) (l r : MRow β α) :
    mergeRow cols pick l r = cols.map fun c =>
      match c.source with
      | .left => l.getD (c.leftIndex.getD 0) default
      | .right => r.getD (c.rightIndex.getD 0) default
      | .shared => if pick then l.getD (c.leftIndex.getD 0) default else r.getD (c.rightIndex.getD 0) default := rfl

/-- the stitched table's columns are the union of both inputs' columns -/
theorem C12_columns_union (leftComb rightComb : List Nat) (x : Nat) :
    x ∈ (locateColumns leftComb rightComb).map (·.columnId) ↔ x ∈ leftComb ∨ x ∈ rightComb := by
  unfold locateColumns
  simp only
  rw [(sortAscStable_perm _ _).map _ |>.mem_iff]
  simp only [List.map_map, Function.comp_def, List.map_id', List.mem_eraseDups, List.mem_append]

/-- T12.a/b  every successful stitch consists of merges of actual left rows with actual right rows; with the left side as
owner the left table is preserved exactly as a multiset of rows (and provides the shared cells). -/
theorem C12_doStitch_real_rows (snapped : List (Ival α)) (isIntegral : List Bool) (entropy : List α) (threshRel : α)
    (left right res : MTable β α) (dc : DerivedCluster) (s s' : List (Draw α))
    (h : (doStitch snapped isIntegral entropy threshRel left right dc).run s = .ok (res, s')) :
    res.2 = (locateColumns left.2 right.2).map (·.columnId) ∧
    ((res.1 = [] ∧ left.1 = [] ∧ right.1 = []) ∨
      StitchedFrom (locateColumns left.2 right.2) dc.owner left.1 right.1 res.1) :=
  have ⟨hcols, hst⟩ := doStitch_spec snapped isIntegral entropy threshRel left right res dc s s' h
  ⟨hcols, Or.inr hst⟩

/-- T12.d  patching (no stitch columns): the left rows in order, each completed with cells of an actual right row. -/
theorem C12_patch (left right res : MTable β α) (s s' : List (Draw α)) (h : (doPatch left right).run s = .ok (res, s')) :
    ∃ rs : List (MRow β α), rs.length = left.1.length ∧ (∀ r ∈ rs, r ∈ right.1) ∧
      res.1 = (List.zip left.1 rs).map (fun p => mergeRow (locateColumns left.2 right.2) true p.1 p.2) ∧
      res.2 = (locateColumns left.2 right.2).map (·.columnId) :=
  doPatch_spec left right res s s' h

end

section
variable {α : Type} [Field α] [LinearOrder α] [IsStrictOrderedRing α] [FloorRing α] [Inhabited α]
variable {β : Type} [Inhabited β]

/-- T12.c  with shared ownership the row count stays within
`[min(0.7·max(L,R), min(L,R)), max(min(L,R)/0.7, max(L,R))]` — for every split history and RNG stream. -/
theorem C12_shared_count (snapped : List (Ival α)) (isIntegral : List Bool) (entropy : List α)
    (left right res : MTable β α) (dc : DerivedCluster) (s s' : List (Draw α)) (hown : dc.owner = .shared)
    (h : (doStitch snapped isIntegral entropy ((7 : α) / 10) left right dc).run s = .ok (res, s')) :
    WithinOwnerBounds left.1.length right.1.length res.1.length := by
  obtain ⟨_, ⟨h1, h2, h3⟩ | ⟨c, fuel, st, ho, _, hth, hrun⟩⟩ := doStitch_run snapped isIntegral entropy _ left right res dc s s' h
  · exact Or.inl (by simp [h1, h2, h3])
  · exact (stitchRec_count c hth (ho.trans hown) fuel st _ _ _ _ _ hrun).1

/-- Non-vacuity: sizes 30 and 40 are balanced by 33 result rows. -/
example : RowsBalanced 30 40 33 := by unfold RowsBalanced; decide

end
