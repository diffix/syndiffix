import SdxProofs.SolverLemmas
/-!
# C13 — Clustering plan is well-formed, complete and deterministic

All statements are about the executable definitions themselves (`Float` arithmetic, uninterpreted) and hold for
every dependence matrix, entropy vector, weight / threshold setting, main column, permutation and — because
`CSet.toList` is a permutation of the set's content by construction — for every set iteration order.
Determinism: the model is a function of (matrix, entropies, parameters, main column, RNG stream).
-/

/-- C13's plan invariant: every column introduced exactly once; every derived cluster has a non-empty, duplicate-free
list of stitch columns, all introduced earlier and containing the main column, and introduces at least one column;
the main column is in the initial cluster. -/
structure WellFormedPlan (n : Nat) (main : Option Nat) (c : Clusters) : Prop where
  complete : (c.initial ++ (c.derivedClusters.map (·.derived)).flatten).Perm (List.range n)
  derived_ok : DerivedOK main c.initial c.derivedClusters
  main_initial : ∀ m, main = some m → m ∈ c.initial

/-- the plan read off non-empty clusters that hold every column once, the main column in the first -/
theorem wellFormed_of_clusters (ctx : ClusteringContext) (mw th : Float) (w : Array Float) (n : Nat)
    (first : MutableCluster) (others : List MutableCluster)
    (hperm : (assigned (first :: others)).Perm (List.range n)) (hne : ∀ c ∈ first :: others, c.columns.elems ≠ [])
    (hmain : ∀ m, ctx.main = some m → m ∈ first.columns.elems) :
    WellFormedPlan n ctx.main ⟨first.columns.toList, deriveClusters ctx mw th w first.columns.copy others⟩ := by
  obtain ⟨d1, d2⟩ := deriveClusters_spec ctx mw th w others first.columns.copy first.columns.toList
    (fun x => (CSet.mem_toList first.columns x).symm) (hne first (by simp)) hmain (fun c hc => hne c (by simp [hc]))
  exact ⟨((CSet_toList_perm _).append d2).trans hperm, d1, fun m hm => (CSet.mem_toList _ _).mpr (hmain m hm)⟩

/-- T13.a  The greedy builder yields a well-formed plan from *every* permutation of the columns. -/
theorem C13_buildClusters_wellFormed (ctx : ClusteringContext) (mw th : Float) (w : Array Float) (perm : List Nat) (n : Nat)
    (hn : 0 < n) (hperm : perm.Perm (List.range n)) (hmain : ∀ m, ctx.main = some m → m < n) :
    WellFormedPlan n ctx.main (buildClusters ctx mw th w perm) := by
  have hnd : perm.Nodup := hperm.nodup_iff.mpr List.nodup_range
  -- with or without a main column: the clusters `c0` the greedy pass starts from and the columns `rest` it still has to place
  obtain ⟨c0, rest, hc0, hstart, hc0ne, hm0⟩ : ∃ (c0 : List MutableCluster) (rest : List Nat),
      buildClusters ctx mw th w perm = (match assignColumns ctx mw th w c0 rest with
        | [] => ⟨[], []⟩
        | first :: others => ⟨first.columns.toList, deriveClusters ctx mw th w first.columns.copy others⟩) ∧
      (assigned c0 ++ rest).Perm perm ∧ (∀ c ∈ c0, c.columns.elems ≠ []) ∧
      (∀ m, ctx.main = some m → ∃ h : 0 < c0.length, m ∈ c0[0].columns.elems) := by
    unfold buildClusters
    cases hm : ctx.main with
    | none => exact ⟨[], perm, rfl, .refl _, by simp, by simp⟩
    | some m =>
      have hmp : m ∈ perm := hperm.mem_iff.mpr (List.mem_range.mpr (hmain m hm))
      refine ⟨_, _, rfl, ?_, by simp [CSet.elems_singleton], by simp [CSet.elems_singleton]⟩
      rw [← hnd.erase_eq_filter]
      simpa [assigned, CSet.elems_singleton] using (List.perm_cons_erase hmp).symm
  rw [hc0]
  obtain ⟨r1, r2, r3, r4⟩ := assignColumns_spec ctx mw th w rest c0 (hstart.nodup_iff.mpr hnd) hc0ne
  cases hr : assignColumns ctx mw th w c0 rest with
  | nil =>
    rw [hr] at r1
    have := (r1.trans (hstart.trans hperm)).length_eq
    simp [assigned] at this; omega
  | cons first others =>
    rw [hr] at r1 r2 r4
    refine wellFormed_of_clusters ctx mw th w n first others (r1.trans (hstart.trans hperm)) r2 (fun m hm => ?_)
    obtain ⟨h0, hm0⟩ := hm0 m hm
    exact (r4 0 h0).2 m hm0

/-- T13.b  merging a trivial first derived cluster keeps the plan well-formed. -/
theorem C13_simplify_wellFormed (n : Nat) (main : Option Nat) (c : Clusters) (h : WellFormedPlan n main c) :
    WellFormedPlan n main (simplifyClusters c) := by
  unfold simplifyClusters
  cases hd : c.derivedClusters with
  | nil => simp only; exact h
  | cons dc rest =>
    simp only
    split_ifs with hc
    · obtain ⟨hcomp, hder, hmain⟩ := h
      rw [hd] at hcomp hder
      obtain ⟨a, b, cc, d, e, f⟩ := hder
      simp only [Bool.and_eq_true, List.all_eq_true, List.contains_iff_mem] at hc
      have hinit_nd : c.initial.Nodup := by
        have := hcomp.nodup_iff.mpr List.nodup_range
        exact (List.nodup_append.mp this).1
      have hp : dc.stitch.Perm c.initial :=
        (List.perm_ext_iff_of_nodup b hinit_nd).mpr (fun x => ⟨fun hx => cc x hx, fun hx => hc.1 x hx⟩)
      refine ⟨?_, ?_, ?_⟩
      · simp only [List.map_cons, List.flatten_cons] at hcomp
        simp only [List.append_assoc]
        exact (List.Perm.append_right _ hp).trans hcomp
      · exact DerivedOK_congr main rest _ _ (fun x => by simp only [List.mem_append, hp.mem_iff]) f
      · intro m hm
        exact List.mem_append_left _ (d m hm)
    · exact h

/-- T13.b  tables of at most four columns form a single cluster (for every RNG stream: none is consumed). -/
theorem C13_solve_small_single_cluster (ctx : ClusteringContext) (mw th alpha : Float) (h : ctx.numColumns ≤ 4) (s : List (Draw Float)) :
    (solve ctx mw th alpha).run s = .ok (⟨List.range ctx.numColumns, []⟩, s) := by
  simp [solve, h]

/-- the single-cluster plan is well-formed -/
theorem C13_single_cluster_wellFormed (n : Nat) (main : Option Nat) (hmain : ∀ m, main = some m → m < n) :
    WellFormedPlan n main ⟨List.range n, []⟩ :=
  ⟨by simp, trivial, fun m hm => List.mem_range.mpr (hmain m hm)⟩

/-- Non-vacuity: the identity permutation of 5 columns meets the hypotheses. -/
example : (List.range 5).Perm (List.range 5) ∧ 0 < 5 := ⟨List.Perm.refl _, by omega⟩

/-- T13.b  Whatever the annealer ends on — for every RNG stream — `_do_solve` returns the simplification of the greedy
plan of *some* permutation of the columns, hence a well-formed plan. -/
theorem C13_doSolve_wellFormed (ctx : ClusteringContext) (mw th alpha : Float) (s s' : List (Draw Float)) (c : Clusters)
    (hn : 0 < ctx.numColumns) (hmain : ∀ m, ctx.main = some m → m < ctx.numColumns)
    (h : (doSolve ctx mw th alpha).run s = .ok (c, s')) : WellFormedPlan ctx.numColumns ctx.main c := by
  unfold doSolve at h
  obtain ⟨st, s1, h1, h2⟩ := StateT_bind_ok h
  obtain ⟨rfl, _⟩ := StateT_pure_ok h2
  have hinv := annealLoop_inv _ ctx.numColumns alpha _ _ st s s1 ⟨List.Perm.refl _, List.Perm.refl _⟩ h1
  exact C13_simplify_wellFormed _ _ _ (C13_buildClusters_wellFormed ctx mw th _ st.best ctx.numColumns hn hinv.2 hmain)

/-- `solve` returns a well-formed plan for every table size, matrix, parameter set, main column and RNG stream. -/
theorem C13_solve_wellFormed (ctx : ClusteringContext) (mw th alpha : Float) (s s' : List (Draw Float)) (c : Clusters)
    (hn : 0 < ctx.numColumns) (hmain : ∀ m, ctx.main = some m → m < ctx.numColumns)
    (h : (solve ctx mw th alpha).run s = .ok (c, s')) : WellFormedPlan ctx.numColumns ctx.main c := by
  unfold solve at h
  split_ifs at h with hc
  · obtain ⟨rfl, _⟩ := StateT_pure_ok h
    exact C13_single_cluster_wellFormed _ _ hmain
  · exact C13_doSolve_wellFormed ctx mw th alpha s s' c hn hmain h

/-! ### the ML plan -/

/-- a derived cluster of an ML plan is a feature cluster (shared, stitched on the target) or, unless dropped, one non-feature column
(left-owned, stitched on the target) -/
theorem solveWithFeatures_derived (main : Nat) (feats : List Nat) (mw : Float) (ent : Array Float) (drop : Bool)
    (dc : DerivedCluster) (hdc : dc ∈ (solveWithFeatures main feats mw ent drop).derivedClusters) :
    (∃ cols, dc = ⟨.shared, [main], cols⟩) ∨
      (drop = false ∧ ∃ x, x ∉ main :: feats ∧ x < ent.size ∧ dc = ⟨.left, [main], [x]⟩) := by
  simp only [solveWithFeatures] at hdc
  rcases List.mem_append.mp hdc with h | h
  · obtain ⟨cl, _, rfl⟩ := List.mem_map.mp h
    exact Or.inl ⟨_, rfl⟩
  · split_ifs at h with hd
    · cases h
    · obtain ⟨x, hx, rfl⟩ := List.mem_map.mp h
      simp only [List.mem_filter, List.mem_range, Bool.not_eq_true', List.contains_eq_mem, decide_eq_false_iff_not] at hx
      exact Or.inr ⟨by simpa using hd, x, hx.2, hx.1, rfl⟩

/-- T13.c  every cluster of an ML plan contains the target: it is in the initial cluster and it is the (only) stitch
column of every derived cluster; non-features are appended one by one with the left side as owner, or dropped. -/
theorem C13_solveWithFeatures_shape (main : Nat) (feats : List Nat) (mw : Float) (ent : Array Float) (drop : Bool) :
    let c := solveWithFeatures main feats mw ent drop
    (∀ dc ∈ c.derivedClusters, dc.stitch = [main]) ∧
    (∀ dc ∈ c.derivedClusters, dc.owner = .left → ∃ x, dc.derived = [x] ∧ x ∉ main :: feats ∧ x < ent.size) ∧
    (drop = true → ∀ dc ∈ c.derivedClusters, dc.owner = .shared) := by
  refine ⟨fun dc hdc => ?_, fun dc hdc hown => ?_, fun hd dc hdc => ?_⟩
  · rcases solveWithFeatures_derived main feats mw ent drop dc hdc with ⟨_, rfl⟩ | ⟨_, _, _, _, rfl⟩ <;> rfl
  · rcases solveWithFeatures_derived main feats mw ent drop dc hdc with ⟨_, rfl⟩ | ⟨_, x, h1, h2, rfl⟩
    · cases hown
    · exact ⟨x, rfl, h1, h2⟩
  · rcases solveWithFeatures_derived main feats mw ent drop dc hdc with ⟨_, rfl⟩ | ⟨hf, _⟩
    · rfl
    · rw [hd] at hf; cases hf
