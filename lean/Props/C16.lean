import SdxModel.Blob
/-!
# C16 — A blob holds only content of its own dataset; served intact

By induction over arbitrary histories of builds, reader constructions, damage, deletion and replacement of the archive
(by one built elsewhere) under one name / directory.
-/

/-- the dataset and member names of the last build in a history, if the archive was not damaged or deleted afterwards -/
def lastArchive : List BlobOp → ArchiveState → ArchiveState
  | [], a => a
  | .build ds names :: rest, _ => lastArchive rest (.valid (names.map (fun n => ⟨n, ds⟩)))
  | .open :: rest, a => lastArchive rest a
  | .damage :: rest, a => lastArchive rest (match a with | .absent => .absent | _ => .corrupt)
  | .delete :: rest, _ => lastArchive rest .absent
  | .construct :: rest, a => lastArchive rest a
  | .install ds names :: rest, _ => lastArchive rest (.valid (names.map (fun n => ⟨n, ds⟩)))

/-- T16.a  After any history the archive is exactly what the last build wrote (or corrupt / absent if damaged / deleted since):
it never contains members of any other dataset, whatever was built or unpacked in the directory before. -/
theorem C16_archive_is_last_build (d : BlobDir) (ops : List BlobOp) : (d.run ops).1.archive = lastArchive ops d.archive := by
  induction ops generalizing d with
  | nil => rfl
  | cons op rest ih =>
    simp only [BlobDir.run, ih]
    obtain ⟨w, a⟩ := d
    cases op <;> cases a <;> rfl

/-- T16.a  What a reader serves depends only on the archive it is pointed at: a valid archive is served member for
member — never leftovers of the working directory —, a missing or corrupt archive is rejected. -/
theorem C16_open_serves_archive_only (d : BlobDir) :
    (d.step .open).2 = (match d.archive with | .valid ms => .served ms | _ => .error) ∧
    (∀ ms, (d.step .open).2 = .served ms → (d.step .open).1.workdir = ms ∧ d.archive = .valid ms) := by
  obtain ⟨w, a⟩ := d
  cases a
  · exact ⟨rfl, nofun⟩
  · exact ⟨rfl, nofun⟩
  · exact ⟨rfl, fun ms h => by cases h; exact ⟨rfl, rfl⟩⟩

/-- every member of a freshly built archive belongs to the dataset it was built from -/
theorem C16_build_own_dataset (d : BlobDir) (ds : Nat) (names : List String) :
    ∀ ms, (d.step (.build ds names)).1.archive = .valid ms → ∀ m ∈ ms, m.dataset = ds := by
  intro ms h m hm
  simp only [BlobDir.step, ArchiveState.valid.injEq] at h
  subst h
  obtain ⟨n, _, rfl⟩ := List.mem_map.mp hm
  rfl

/-- T16.a (histories)  whatever happened before — builds, reads, damage, deletion, an archive copied in —, a reader constructed now
serves exactly the members of the archive as the last build or installation left it, or fails. -/
theorem C16_reader_serves_last_archive (d : BlobDir) (ops : List BlobOp) :
    ((d.run ops).1.step .open).2 = (match lastArchive ops d.archive with | .valid ms => .served ms | _ => .error) := by
  rw [(C16_open_serves_archive_only _).1, C16_archive_is_last_build]

/-- T16.a (several names)  operations on one blob name never change what another name in the same directory holds or serves -/
theorem C16_names_independent (s : BlobStore) (k k' : Nat) (op : BlobOp) (h : k' ≠ k) : ((s.step k op).1).get k' = s.get k' := by
  have hk : (k == k') = false := beq_false_of_ne (Ne.symm h)
  simp only [BlobStore.step, BlobStore.get, List.find?_cons, hk, List.find?_filter]
  -- an entry named `k'` is not among those that `filter` drops
  congr 3; funext p
  cases hp : p.1 == k'
  · exact decide_eq_false (nomatch ·.2)
  · exact decide_eq_true ⟨bne_iff_ne.mpr (eq_of_beq hp ▸ h), rfl⟩

/-- … and the blob that is operated on behaves as if it were alone in the directory -/
theorem C16_name_own_step (s : BlobStore) (k : Nat) (op : BlobOp) :
    ((s.step k op).1).get k = ((s.get k).step op).1 ∧ (s.step k op).2 = ((s.get k).step op).2 := by
  unfold BlobStore.step
  simp [BlobStore.get]

/-- Non-vacuity: a reader served dataset 1, then an archive of dataset 2 built elsewhere is copied in: the next reader is served
dataset 2's members only. -/
example : ((({} : BlobDir).run [.build 1 ["a"], .open, .install 2 ["a", "b"], .open]).2.getLast?) = some (.served [⟨"a", 2⟩, ⟨"b", 2⟩]) := by decide

/-- Non-vacuity: build A, open, build B under the same name, open: the second reader is served B's members only. -/
example : ((({} : BlobDir).run [.build 1 ["a"], .open, .build 2 ["b"], .open]).2.getLast?) = some (.served [⟨"b", 2⟩]) := by decide
