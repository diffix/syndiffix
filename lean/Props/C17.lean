import SdxProofs.SnapLemmas
set_option linter.unusedSectionVars false
/-!
# C17 — Range snapping: containing, dyadic, aligned, tight; null stand-in far outside

Statements are over an arbitrary linearly ordered field with floor (`ℚ`, `ℝ`, …), i.e. they hold
for every pair of doubles on which the operations involved are exact. The executable model is the
same definitions at `Float`, compared with `syndiffix.interval` bit for bit (stream S-int).
-/

section
variable {α : Type} [Field α] [LinearOrder α] [IsStrictOrderedRing α] [FloorRing α]

/-- T17.a  `_next_pow2 x` is a power of two with `x ≤ · < 2x` (hence the least one `≥ x`). -/
theorem C17_nextPow2_spec {x : α} (hx : 0 < x) :
    x ≤ (ScalarOps.nextPow2 x : α) ∧ (ScalarOps.nextPow2 x : α) < 2 * x ∧
      ∃ k : ℤ, (ScalarOps.nextPow2 x : α) = 2 ^ k :=
  ⟨nextPow2_ge hx, nextPow2_lt hx, ⟨_, rfl⟩⟩

/-- T17.a'  minimality: no smaller power of two is `≥ x`. -/
theorem C17_nextPow2_least {x : α} (hx : 0 < x) (k : ℤ) (hk : x ≤ (2 : α) ^ k) :
    (ScalarOps.nextPow2 x : α) ≤ 2 ^ k := by
  rw [snextPow2_eq]
  exact zpow_le_zpow_right₀ one_le_two ((Int.le_zpow_iff_clog_le one_lt_two hx).mp (mod_cast hk))

/-- T17.c  the two halves of a proper range tile it and are proper. -/
theorem C17_halves_tile (i : Ival α) (h : i.lo < i.hi) :
    (i.half 0).lo = i.lo ∧ (i.half 0).hi = (i.half 1).lo ∧ (i.half 1).hi = i.hi ∧
      (i.half 0).lo < (i.half 0).hi ∧ (i.half 1).lo < (i.half 1).hi :=
  ⟨rfl, rfl, rfl, (i.middle_mem h.le).2.2 h⟩

/-- T17.c  a value is assigned to the half that contains it (mid-point to the upper half). -/
theorem C17_half_contains (i : Ival α) (v : α) (h : i.lo < i.hi) (hv : i.lo ≤ v ∧ v < i.hi) :
    (i.half (i.halfIndex v)).lo ≤ v ∧ v < (i.half (i.halfIndex v)).hi := by
  by_cases hm : v < i.middle
  · rw [(i.halfIndex_eq_zero_iff v).mpr (.inr hm)]; exact ⟨hv.1, hm⟩
  · rw [(i.halfIndex_eq_one_iff v).mpr ⟨h.ne, not_lt.mp hm⟩]; exact ⟨not_lt.mp hm, hv.2⟩

/-- T17.c  the mid-point itself goes to the upper half. -/
theorem C17_midpoint_upper (i : Ival α) (h : i.lo < i.hi) : i.halfIndex i.middle = 1 :=
  (i.halfIndex_eq_one_iff _).mpr ⟨h.ne, le_rfl⟩

/-- T17.d  the null stand-in: `2·max` if `max > 0`, else `2·min` if `min < 0`, else `1`;
strictly outside `[min,max]`. -/
theorem C17_nullMapping_outside (i : Ival α) (h : i.lo ≤ i.hi) :
    (nullMapping i = if 0 < i.hi then 2 * i.hi else if i.lo < 0 then 2 * i.lo else 1) ∧
    (nullMapping i < i.lo ∨ i.hi < nullMapping i) := by
  refine ⟨nullMapping_eq i, ?_⟩
  rw [nullMapping_eq]
  split_ifs with h1 h2
  · exact .inr (lt_two_mul_self h1)
  · exact .inl (by rw [two_mul]; exact add_lt_of_neg_left _ h2)
  · exact .inr ((not_lt.mp h1).trans_lt one_pos)

end

section
variable {α : Type} [Field α] [LinearOrder α] [IsStrictOrderedRing α] [FloorRing α]

/-- What C17 demands of a snapped range `s` for an input range `i`. -/
def SnapSpec (i s : Ival α) : Prop :=
  s.lo ≤ i.lo ∧ i.hi ≤ s.hi ∧ (∃ k : ℤ, s.hi - s.lo = 2 ^ k) ∧
    (∃ n : ℤ, s.lo = n * ((s.hi - s.lo) / 2)) ∧
    (i.lo < i.hi → s.hi - s.lo < 4 * (i.hi - i.lo)) ∧ (i.lo = i.hi → s.hi - s.lo = 1)

/-- a range of size `Q = 2^k` on the `Q/2` grid below `lo` that reaches `hi` -/
theorem snapSpec_grid {i : Ival α} {Q : α} (hQ : ∃ k : ℤ, Q = 2 ^ k) (hhi : i.hi ≤ floorBy i.lo (Q / 2) + Q)
    (h3 : i.lo < i.hi → Q < 4 * (i.hi - i.lo)) (h4 : i.lo = i.hi → Q = 1) :
    SnapSpec i ⟨floorBy i.lo (Q / 2), floorBy i.lo (Q / 2) + Q⟩ := by
  obtain ⟨k, hk⟩ := hQ
  simp only [SnapSpec, add_sub_cancel_left]
  exact ⟨floorBy_le _ (half_pos (hk ▸ zpow_pos two_pos k)), hhi, ⟨k, hk⟩, floorBy_multiple _ _, h3, h4⟩

/-- `snap_interval` stops after at most one re-snap, whatever budget beyond two it is given. With `P` the size of the
first step, the result is the range of size `P` on the `P/2` grid below `lo`, or, when that falls short of `hi`,
the range of size `2P` on the `P` grid below `lo`. -/
theorem snapFuel_spec (i : Ival α) : ∃ s, (∀ n, snapFuel (n + 2) i = some s) ∧ SnapSpec i s := by
  have hP := snapSize_pos i
  obtain ⟨k, hk⟩ := snapSize_pow i
  by_cases hfit : floorBy i.lo (snapSize i / 2) + snapSize i < i.hi
  · have ha := lt_floorBy_add i.lo (half_pos hP)
    have hlt : i.lo < i.hi := ha.trans ((add_lt_add_right (half_lt_self hP) _).trans hfit)
    obtain ⟨b1, b2⟩ := snapSize_bounds hlt
    have hQ : 2 * snapSize i / 2 = snapSize i := mul_div_cancel_left₀ _ two_ne_zero
    have hhi : i.hi ≤ floorBy i.lo (2 * snapSize i / 2) + 2 * snapSize i := by
      rw [hQ]; linarith [lt_floorBy_add i.lo hP]
    -- the range to re-snap is longer than `P` and at most `2P`; it starts on the `P/2` grid, so its `P` grid point is that of `lo`
    have hj : snapSize ⟨floorBy i.lo (snapSize i / 2), i.hi⟩ = 2 * snapSize i :=
      (snapSize_of_lt ((lt_add_of_pos_right _ hP).trans hfit)).trans
        (nextPow2_eq_double hk (lt_sub_iff_add_lt'.mpr hfit) (by show i.hi - _ ≤ _; linarith))
    have hg := floorBy_floorBy i.lo (half_pos hP).ne' 2
    rw [Nat.cast_ofNat, ← mul_div_assoc] at hg
    refine ⟨_, fun n => ?_, snapSpec_grid ⟨k + 1, by rw [zpow_add_one₀ two_ne_zero, hk, mul_comm]⟩ hhi
      (fun _ => by linarith) (fun he => absurd he hlt.ne)⟩
    rw [snapFuel, snapStep_eq, if_pos hfit]
    simp only
    rw [snapFuel, snapStep_eq, hj, hg, if_neg (not_lt.mpr hhi)]
  · exact ⟨_, fun n => by rw [snapFuel, snapStep_eq, if_neg hfit],
      snapSpec_grid ⟨k, hk⟩ (not_lt.mp hfit) (fun hlt => by linarith [(snapSize_bounds hlt).2]) snapSize_of_eq⟩

/-- T17.b  `snap_interval` terminates after at most one re-snap and its result contains the input,
has a power-of-two width (1 for a point), starts at a multiple of half its width and is less than
four times as wide as the input. -/
theorem C17_snap_spec (i : Ival α) (h : i.lo ≤ i.hi) : ∃ s, snapFuel 2 i = some s ∧ SnapSpec i s :=
  let ⟨s, h1, h2⟩ := snapFuel_spec i
  ⟨s, h1 0, h2⟩

/-- T17.b  more budget changes nothing: the recursion has already stopped. -/
theorem C17_snap_fuel_irrelevant (i : Ival α) (h : i.lo ≤ i.hi) (n : Nat) :
    snapFuel (n + 2) i = snapFuel 2 i :=
  let ⟨_, h1, _⟩ := snapFuel_spec i
  (h1 n).trans (h1 0).symm

/-- Non-vacuity: a concrete range over ℚ meets the hypothesis, and its snap is the expected one. -/
example : ((⟨3, 11⟩ : Ival ℚ).lo ≤ (⟨3, 11⟩ : Ival ℚ).hi) := by norm_num

end
