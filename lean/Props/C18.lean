import SdxProofs.TreeLemmas
import SdxProofs.TreeInv
import SdxProofs.PushDown
import SdxProofs.ForestLemmas
import Mathlib.Data.List.InsertIdx
import Props.C02
import Props.C17
import Mathlib.Data.Rat.Floor
set_option linter.unusedSectionVars false
/-!
# C18 — Forest invariants: rows partitioned by halved ranges; splits only where allowed

Proved here (for every table, id layout, salt and parameter set, over exact arithmetic, hashes and noise
uninterpreted): the *step* facts that make the invariant hold — index arithmetic for any number of
dimensions, child ranges are the selected halves, a routed row stays inside the child's range, the split
test implies all three licences (not a point, ≥ `low_threshold` distinct entities per id column, a
qualifying lower-dimensional projection), the tight range grows to the hull, folding outliers touches no
range. The lift of these steps to the *global* invariant over whole insertion histories is not yet a Lean
theorem (partial); it is evaluated on every real tree by the oracle and the model is tied bit for bit.
-/

section
variable {α : Type} [Field α] [LinearOrder α] [IsStrictOrderedRing α] [FloorRing α] [Inhabited α]

/-- T18.d  bit `d-1-j` of a child index is the half index of dimension `j` — for any number of dimensions. -/
theorem C18_childIndex_bit (ivs : List (Ival α)) (vs : List α) (hl : ivs.length = vs.length) (j : Nat)
    (hj : j < ivs.length) :
    (childIndex ivs vs / 2 ^ (ivs.length - 1 - j)) % 2 = ivs[j].halfIndex (vs[j]'(hl ▸ hj)) :=
  childIndex_bit ivs vs hl j hj

/-- T18.b  a new child's ranges are the halves of the parent's ranges selected by the bits of its index. -/
theorem C18_child_ranges (E : Env α) (c : FCtx α) (d : NodeData α) (subs : List (Option (Node α))) (idx row : Nat) :
    (createChild E c d subs idx row).data.snapped =
      (List.zip (List.range d.comb.length) d.snapped).map
        (fun p => p.2.half ((idx / 2 ^ (d.comb.length - 1 - p.1)) % 2)) := rfl

/-- T18.d  a row routed by `_find_child_index` lies inside the selected half in every dimension. -/
theorem C18_routed_row_in_child (ivs : List (Ival α)) (vs : List α) (hl : ivs.length = vs.length) (j : Nat)
    (hj : j < ivs.length) (hproper : ivs[j].lo < ivs[j].hi)
    (hin : ivs[j].lo ≤ vs[j]'(hl ▸ hj) ∧ vs[j]'(hl ▸ hj) < ivs[j].hi) :
    (ivs[j].half ((childIndex ivs vs / 2 ^ (ivs.length - 1 - j)) % 2)).lo ≤ vs[j]'(hl ▸ hj) ∧
    vs[j]'(hl ▸ hj) < (ivs[j].half ((childIndex ivs vs / 2 ^ (ivs.length - 1 - j)) % 2)).hi := by
  rw [C18_childIndex_bit ivs vs hl j hj]
  exact C17_half_contains ivs[j] _ hproper hin

/-- T18.f  the split test implies: not a stub, not a single point, and the low-count filter passed. -/
theorem C18_split_conditions (E : Env α) (c : FCtx α) (rowLimit : Int) (depth : Nat) (n : Node α) (nrows : Nat)
    (h : shouldSplit E c rowLimit depth n nrows = true) :
    n.data.isStub = false ∧ n.isSing = false ∧ n.overThreshold E c c.ap.supp.lt = true := by
  simp only [shouldSplit, Bool.and_eq_true, Bool.not_eq_true'] at h
  exact ⟨h.1.1.2, h.1.2, h.2⟩

/-- T18.f  passing the filter with threshold `th` means: every id column of the rows held has at least `th`
distinct non-null entities (explicit ids; the counter's cap is at least `th`, see `C02_cap_bounds`). -/
theorem C18_over_threshold_entities_generic (E : Env α) (c : FCtx α) (n : Node α) (th : Int) (cap dims : Nat)
    (rows : List (List UInt64)) (hrows : ∀ r ∈ rows, r.length = dims)
    (hcounter : n.data.counter = (CounterKind.generic dims cap).newEntity.addMany rows)
    (hcap : th ≤ (cap : Int)) (h : n.overThreshold E c th = true) :
    ∀ d < dims, th ≤ ((entitySet (idColumn rows d)).card : Int) := by
  apply C02_saturating_counter_floor E c.ap.salt { c.ap.supp with lt := th } cap dims rows hrows hcap
  simp only [Node.overThreshold, Bool.not_eq_true', hcounter] at h
  exact h

/-- T18.f  the same for implicit row ids (one distinct id per row): at least `th` rows with a non-null id. -/
theorem C18_over_threshold_entities_unique (E : Env α) (c : FCtx α) (n : Node α) (th : Int) (cnt : Nat) (seed : UInt64)
    (hcounter : n.data.counter = .unique cnt seed) (h : n.overThreshold E c th = true) : th ≤ (cnt : Int) := by
  simp only [Node.overThreshold, Bool.not_eq_true', hcounter] at h
  exact C02_pass_floor E c.ap.salt { c.ap.supp with lt := th } _ h (cnt, seed) (List.mem_singleton_self _)

/-- T18.f  a node of two or more columns that is not a stub has a lower-dimensional projection that is itself
no stub and passed the filter at `singularity_low_threshold` (single point) or `range_low_threshold` (range). -/
theorem C18_not_stub_projection (E : Env α) (c : FCtx α) (subs : List (Option (Node α))) (hne : subs ≠ [])
    (h : stubFlag E c subs = false) :
    ∃ p, some p ∈ subs ∧ p.data.isStub = false ∧
      p.overThreshold E c (if p.isSing then c.bp.singTh else c.bp.rangeTh) = true := by
  simp only [stubFlag, Bool.and_eq_false_iff, Bool.not_eq_false', List.isEmpty_iff] at h
  rcases h with h | h
  · exact absurd h hne
  · rw [List.all_eq_false] at h
    obtain ⟨s, hs, hsf⟩ := h
    cases s with
    | none => simp at hsf
    | some p =>
      refine ⟨p, hs, ?_⟩
      simp only [Node.isStubSubnode, Bool.or_eq_true, Bool.not_eq_true', not_or, Bool.not_eq_true] at hsf
      simpa using hsf

/-- T18.e  the tight range grows to the hull of what it had and the new value. -/
theorem C18_expand_is_hull (i : Ival α) (v : α) (h : i.lo ≤ i.hi) :
    (i.expand v).lo = min i.lo v ∧ (i.expand v).hi = max i.hi v := by
  unfold Ival.expand
  split_ifs with h1 h2
  · exact ⟨(min_eq_left (h.trans h1.le)).symm, (max_eq_right h1.le).symm⟩
  · exact ⟨(min_eq_right h2.le).symm, (max_eq_left (h2.le.trans h)).symm⟩
  · exact ⟨(min_eq_left (not_lt.mp h2)).symm, (max_eq_left (not_lt.mp h1)).symm⟩

/-- T18.c  folding an outlier into a 1-dim tree changes no range (neither snapped nor tight) of the node. -/
theorem C18_outlier_keeps_ranges (c : FCtx α) (fuel : Nat) (n n' : Node α) (row : Nat) (h : addOutlier c fuel n row = some n') :
    n'.data.snapped = n.data.snapped ∧ n'.data.actual = n.data.actual := by
  fun_induction addOutlier c fuel n row generalizing n' with
  | case1 => cases h
  | case2 => cases h; exact ⟨rfl, rfl⟩
  | case3 => cases h
  | case4 =>
    obtain ⟨_, _, rfl⟩ := Option.map_eq_some_iff.mp h
    exact ⟨rfl, rfl⟩

/-! ## The global invariant (every node of every tree, every insertion history) -/

/-- T18.g  `add_row` preserves the tree invariant `TInv` (see `SdxProofs/TreeInv.lean`), adds exactly the new row
and keeps the identity (columns, path, seed, ranges, sub-nodes) of the node it is applied to. -/
theorem C18_add_row_invariant (E : Env α) (c : FCtx α) (rl : Int) (root : List (Ival α)) (fuel depth : Nat) (t : Node α)
    (row : Nat) (t' : Node α) (hT : TInv E c root t) (hr : RowInside c root t.data row)
    (h : addRow E c rl fuel depth t row = some t') :
    TInv E c root t' ∧ t'.allRows.Perm (t.allRows ++ [row]) ∧ SameId t t' :=
  addRow_inv E c rl root fuel depth t row t' hT hr h

/-- T18.g  the tree `Forest` builds for a column combination (`Leaf(row 0)`, then `add_row` for every further row):
whenever the build finishes (no `RecursionError`), the tree satisfies the invariant relative to its root ranges and
holds every input row exactly once. -/
theorem C18_tree_invariant (E : Env α) (c : FCtx α) (rl : Int) (comb : List Nat) (seed : UInt64)
    (subs : List (Option (Node α))) (snapped : List (Ival α)) (hlen : snapped.length = comb.length)
    (hsub : SubsOK comb snapped subs) (hn : 0 < c.data.size) (t : Node α)
    (h : buildRows E c rl (mkLeaf E c comb [] seed subs snapped 0) = some t) :
    TInv E c snapped t ∧ t.allRows.Perm (List.range c.data.size) ∧ t.data.snapped = snapped ∧ t.data.comb = comb := by
  obtain ⟨hT, hp, hid⟩ := buildRows_inv E c rl (mkLeaf E c comb [] seed subs snapped 0) t
    (mkLeaf_ok E c snapped comb [] seed subs snapped 0 hlen (fun j _ hv => ⟨hv.1, hv.2, fun _ => rfl⟩) hsub) h
  refine ⟨hT, hp.trans ?_, hid.2.2.2.1, hid.1⟩
  have : c.data.size = (c.data.size - 1) + 1 := by omega
  rw [this, List.range_succ_eq_map]
  simp [mkLeaf, Node.allRows_leaf]

/-- T18.a  every input row sits in exactly one leaf, once: the rows of the leaves, read left to right, are a
permutation of `0 .. n-1`. -/
theorem C18_rows_partitioned (E : Env α) (c : FCtx α) (rl : Int) (comb : List Nat) (seed : UInt64)
    (subs : List (Option (Node α))) (snapped : List (Ival α)) (hlen : snapped.length = comb.length)
    (hsub : SubsOK comb snapped subs) (hn : 0 < c.data.size) (t : Node α)
    (h : buildRows E c rl (mkLeaf E c comb [] seed subs snapped 0) = some t) :
    t.allRows.Nodup ∧ ∀ r, r ∈ t.allRows ↔ r < c.data.size := by
  obtain ⟨_, hp, _⟩ := C18_tree_invariant E c rl comb seed subs snapped hlen hsub hn t h
  exact ⟨hp.nodup_iff.mpr List.nodup_range, fun r => by rw [hp.mem_iff, List.mem_range]⟩

/-- T18.b (global)  in a tree satisfying the invariant, every child of every branch carries its parent's columns and
seed, its parent's path extended by its key, and as ranges the halves of the parent's ranges selected by the bits of
its key; keys are unique; and every row below a child routes to that child's key. -/
theorem C18_children_global (E : Env α) (c : FCtx α) (root : List (Ival α)) (t : Node α) (hT : TInv E c root t)
    (d : NodeData α) (s : List (Option (Node α))) (ch : List (Nat × Node α)) (hs : Node.Sub (.branch d s ch) t) :
    (ch.map (·.1)).Nodup ∧ ∀ p ∈ ch, p.2.data.comb = d.comb ∧ p.2.data.path = d.path ++ [p.1] ∧
      p.2.data.baseSeed = d.baseSeed ∧ p.2.data.snapped = childRanges d p.1 ∧
      ∀ r ∈ p.2.allRows, childIndex d.snapped (c.vals d.comb r) = p.1 := by
  cases TInv.sub hs hT with
  | branch _ _ _ _ hN hB hC =>
    exact ⟨hB.keys, fun p hp => ⟨(hB.child p hp).1, (hB.child p hp).2.1, (hB.child p hp).2.2.1, (hB.child p hp).2.2.2,
      hB.route p hp⟩⟩

/-- T18.d (global)  every row a node holds whose value lies in the tree's root range lies in that node's range, in
every dimension: lower end closed, upper end open unless it still is the root's upper end. (Rows beyond the root
range are the outliers of a pushed-down column; nothing is claimed for them.) -/
theorem C18_rows_inside_global (E : Env α) (c : FCtx α) (root : List (Ival α)) (t n : Node α) (hT : TInv E c root t)
    (hs : Node.Sub n t) (r : Nat) (hr : r ∈ n.allRows) (j : Nat) (hj : j < n.data.comb.length)
    (hroot : (root.getD j default).lo ≤ c.value r (n.data.comb.getD j 0) ∧
      c.value r (n.data.comb.getD j 0) ≤ (root.getD j default).hi) :
    (n.data.snapped.getD j default).lo ≤ c.value r (n.data.comb.getD j 0) ∧
    c.value r (n.data.comb.getD j 0) ≤ (n.data.snapped.getD j default).hi ∧
    (c.value r (n.data.comb.getD j 0) = (n.data.snapped.getD j default).hi →
      (n.data.snapped.getD j default).hi = (root.getD j default).hi) :=
  (TInv.sub hs hT).nodeOK.inside r hr j hj hroot

/-- T18.e (global)  the tight range of every node is the hull of the values of the rows it holds: it contains them
all and both its ends are attained. -/
theorem C18_tight_range_global (E : Env α) (c : FCtx α) (root : List (Ival α)) (t n : Node α) (hT : TInv E c root t)
    (hs : Node.Sub n t) (j : Nat) (hj : j < n.data.comb.length) :
    HullOf (n.data.actual.getD j default) (n.allRows.map fun r => c.value r (n.data.comb.getD j 0)) :=
  (TInv.sub hs hT).nodeOK.hull j hj

/-- T18.f (global)  every branch of the tree is no stub, is not a single point, and passed the low-count filter on
a set of rows that it still holds. -/
theorem C18_branch_licences_global (E : Env α) (c : FCtx α) (root : List (Ival α)) (t : Node α) (hT : TInv E c root t)
    (d : NodeData α) (s : List (Option (Node α))) (ch : List (Nat × Node α)) (hs : Node.Sub (.branch d s ch) t) :
    d.isStub = false ∧ stubFlag E c s = false ∧ d.actual.all Ival.isSing = false ∧
    ∃ h0 : List Nat, h0.Subperm (Node.branch d s ch).allRows ∧
      (c.kind.newEntity.addMany (h0.map c.pidRow)).isLowCount E c.ap.salt c.ap.supp = false := by
  cases TInv.sub hs hT with
  | branch _ _ _ _ hN hB hC => exact ⟨hB.notStub, hN.stub ▸ hB.notStub, hB.notSing, hB.licence⟩

/-- T18.f (global, explicit ids)  every branch holds at least `low_threshold` distinct non-null entities in every
id column. -/
theorem C18_branch_entities_generic (E : Env α) (c : FCtx α) (root : List (Ival α)) (t : Node α) (hT : TInv E c root t)
    (d : NodeData α) (s : List (Option (Node α))) (ch : List (Nat × Node α)) (hs : Node.Sub (.branch d s ch) t)
    (dims cap : Nat) (hk : c.kind = .generic dims cap) (hrows : ∀ r, (c.pidRow r).length = dims)
    (hcap : c.ap.supp.lt ≤ (cap : Int)) :
    ∀ k < dims, c.ap.supp.lt ≤ ((entitySet (idColumn ((Node.branch d s ch).allRows.map c.pidRow) k)).card : Int) := by
  obtain ⟨_, _, _, h0, hsub, hlow⟩ := C18_branch_licences_global E c root t hT d s ch hs
  rw [hk] at hlow
  exact C02_pass_backed_generic E c.ap.salt c.ap.supp cap dims _ _ (List.map_subset c.pidRow hsub.subset)
    (fun r hr => by obtain ⟨x, _, rfl⟩ := List.mem_map.mp hr; exact hrows x) hcap hlow

/-- rows carrying one non-null id (implicit row ids: every row) -/
def nonNullRows (rows : List (List UInt64)) : Nat :=
  rows.countP (fun r => match r with | [pid] => pid != 0 | _ => false)

theorem addMany_unique (rows : List (List UInt64)) (c0 : Nat) (s0 : UInt64) :
    ∃ s, (ECounter.unique c0 s0).addMany rows = .unique (c0 + nonNullRows rows) s := by
  induction rows generalizing c0 s0 with
  | nil => exact ⟨s0, by simp [ECounter.addMany, nonNullRows]⟩
  | cons r rows ih =>
    simp only [ECounter.addMany, List.foldl_cons] at ih ⊢
    match r with
    | [] => obtain ⟨s, hs⟩ := ih c0 s0; exact ⟨s, by simp [ECounter.add, hs, nonNullRows]⟩
    | [pid] =>
      by_cases hp : pid = 0
      · obtain ⟨s, hs⟩ := ih c0 s0; exact ⟨s, by simp [ECounter.add, hp, hs, nonNullRows]⟩
      · obtain ⟨s, hs⟩ := ih (c0 + 1) (s0 ^^^ pid)
        exact ⟨s, by simp [ECounter.add, hp, hs, nonNullRows, List.countP_cons]; omega⟩
    | _ :: _ :: _ => obtain ⟨s, hs⟩ := ih c0 s0; exact ⟨s, by simp [ECounter.add, hs, nonNullRows]⟩

/-- a pass of the unique-id counter needs `low_threshold` rows with a non-null id -/
theorem pass_floor_unique (E : Env α) (salt : ByteArray) (p : SuppParams α) (rows : List (List UInt64))
    (hlow : (CounterKind.unique.newEntity.addMany rows).isLowCount E salt p = false) : p.lt ≤ (nonNullRows rows : Int) := by
  obtain ⟨sd, hsd⟩ := addMany_unique rows 0 0
  rw [CounterKind.newEntity, hsd, Nat.zero_add] at hlow
  exact C02_pass_floor E salt p _ hlow (_, sd) (List.mem_singleton_self _)

theorem nonNullRows_map_le {ι : Type} (f : ι → List UInt64) {h0 all : List ι} (hsub : h0.Subperm all) :
    nonNullRows (h0.map f) ≤ nonNullRows (all.map f) := by
  simp only [nonNullRows, List.countP_map]
  exact hsub.countP_le _

/-- T18.f (global, implicit row ids)  every branch holds at least `low_threshold` rows with a non-null id. -/
theorem C18_branch_entities_unique (E : Env α) (c : FCtx α) (root : List (Ival α)) (t : Node α) (hT : TInv E c root t)
    (d : NodeData α) (s : List (Option (Node α))) (ch : List (Nat × Node α)) (hs : Node.Sub (.branch d s ch) t)
    (hk : c.kind = .unique) :
    c.ap.supp.lt ≤ (nonNullRows ((Node.branch d s ch).allRows.map c.pidRow) : Int) := by
  obtain ⟨_, _, _, h0, hsub, hlow⟩ := C18_branch_licences_global E c root t hT d s ch hs
  rw [hk] at hlow
  exact (pass_floor_unique E c.ap.salt c.ap.supp _ hlow).trans (Int.ofNat_le.mpr (nonNullRows_map_le c.pidRow hsub))

/-! ## The 1-dim root push-down (outliers folded into the edge leaf) -/

/-- T18.c (global)  folding one outlier row into a 1-dim tree: whenever `_add_1dim_outlier_row` returns (no `KeyError`),
the invariant with exempt set `out` is kept, exactly that row is added, and identity and tight range of the node are
unchanged. -/
theorem C18_fold_outlier (E : Env α) (c : FCtx α) (root : List (Ival α)) (out : List Nat) (fuel : Nat) (t : Node α)
    (row : Nat) (t' : Node α) (hT : TInvO E c root out t) (hr : row ∈ out) (h : addOutlier c fuel t row = some t') :
    TInvO E c root out t' ∧ t'.allRows.Perm (t.allRows ++ [row]) ∧ SameId t t' ∧ t'.data.actual = t.data.actual :=
  addOutlier_inv E c root out fuel t row t' hT hr h

/-- T18.c (global)  `push_down_1dim_root` on the 1-dim tree `add_row` built: the new root holds exactly the rows of the
old one (nothing lost, nothing twice), satisfies the invariant with an exempt set `out`, its range is nested in the old
root range, and every exempt row lies beyond the final root range (below its lower end, or at/above its upper end). -/
theorem C18_push_down_invariant (E : Env α) (c : FCtx α) (root : List (Ival α)) (fuel : Nat) (t t' : Node α)
    (hT : TInv E c root t) (h1 : t.data.comb.length = 1) (hnd : t.allRows.Nodup)
    (hord : (rootIv t).lo ≤ (rootIv t).hi) (h : pushDown E c fuel t = some t') :
    ∃ out, TInvO E c root out t' ∧ t'.allRows.Perm t.allRows ∧ t'.data.comb = t.data.comb ∧
      NestedIn (rootIv t') (rootIv t) ∧ (rootIv t').lo ≤ (rootIv t').hi ∧
      ∀ r ∈ out, r ∈ t'.allRows ∧ Outside (rootIv t') (c.value r (t.data.comb.getD 0 0)) :=
  pushDown_inv E c root fuel t t' hT h1 hnd hord h

/-- T18  the 1-dim tree of column `j` as `Forest.__init__` builds it (insert every row, then push the root down):
it holds every input row exactly once; every node satisfies the invariant; rows are exempt from the value clauses
only if they lie beyond the final root range. -/
theorem C18_tree1_invariant (E : Env α) (c : FCtx α) (rl : Int) (j : Nat) (seed : UInt64) (iv : Ival α)
    (hiv : iv.lo ≤ iv.hi) (hn : 0 < c.data.size) (t' : Node α)
    (h : (buildRows E c rl (mkLeaf E c [j] [] seed [] [iv] 0)).bind (pushDown E c 4000) = some t') :
    ∃ out, TInvO E c [iv] out t' ∧ t'.allRows.Perm (List.range c.data.size) ∧ t'.data.comb = [j] ∧
      NestedIn (rootIv t') iv ∧
      ∀ r ∈ out, r ∈ t'.allRows ∧ Outside (rootIv t') (c.value r j) := by
  simp only [Option.bind_eq_some_iff] at h
  obtain ⟨t, hb, hp⟩ := h
  obtain ⟨hT, hperm, hsn, hcomb⟩ := C18_tree_invariant E c rl [j] seed [] [iv] rfl (subsOK_nil (by simp)) hn t hb
  have hroot : rootIv t = iv := by unfold rootIv; rw [hsn]; rfl
  obtain ⟨out, hTO, hp', hc', hnest, _, hout⟩ := pushDown_inv E c [iv] 4000 t t' hT (by rw [hcomb]; rfl)
    (hperm.nodup_iff.mpr List.nodup_range) (by rw [hroot]; exact hiv) hp
  refine ⟨out, hTO, hp'.trans hperm, hc'.trans hcomb, by rw [← hroot]; exact hnest, ?_⟩
  intro r hr
  have := hout r hr
  rw [hcomb] at this
  exact this

/-- T18.d/e (global, pushed-down trees)  in every node of a pushed-down tree, every held row that is not exempt lies in
the node's range (when inside the original root range), and the tight range is the hull of the non-exempt rows. -/
theorem C18_pushed_down_nodes (E : Env α) (c : FCtx α) (root : List (Ival α)) (out : List Nat) (t n : Node α)
    (hT : TInvO E c root out t) (hs : Node.Sub n t) :
    (∀ r ∈ n.allRows, r ∉ out → RowInside c root n.data r) ∧
    (∀ j < n.data.comb.length, HullOf (n.data.actual.getD j default)
      ((inRows out n.allRows).map fun r => c.value r (n.data.comb.getD j 0))) :=
  ⟨fun r hr ho => (TInvO.sub hs hT).nodeOK.inside r (mem_inRows.mpr ⟨hr, ho⟩), (TInvO.sub hs hT).nodeOK.hull⟩

/-! ## The forest: every tree `Forest` hands out -/

/-- T18  whenever `Forest.__init__` finishes, the tree it keeps for every single column holds every row exactly once and
satisfies the invariant relative to the column's snapped range, with exemptions only for rows beyond the final
(pushed-down) root range, which is nested in the column's snapped range. -/
theorem C18_forest_trees1 (E : Env α) (inp : ForestIn α) (F : Forest α) (h : Forest.init E inp = .ok F)
    (hn : 0 < inp.raw.size) (j : Nat) (hj : j < F.trees1.length) :
    ∃ out, TInvO E F.ctx [F.rootSnapped0.getD j default] out (F.trees1[j]) ∧
      (F.trees1[j]).allRows.Perm (List.range F.ctx.data.size) ∧ (F.trees1[j]).data.comb = [j] ∧
      NestedIn (rootIv (F.trees1[j])) (F.rootSnapped0.getD j default) ∧
      ∀ r ∈ out, r ∈ (F.trees1[j]).allRows ∧ Outside (rootIv (F.trees1[j])) (F.ctx.value r j) := by
  obtain ⟨hl1, hl0, hprop, hsize, _, ht⟩ := forest_init_trees1 E inp F h
  have hjs : j < F.rootSnapped0.length := by rw [hl0, ← hl1]; exact hj
  have hiv : (F.rootSnapped0.getD j default).lo ≤ (F.rootSnapped0.getD j default).hi := by
    have : F.rootSnapped0.getD j default = F.rootSnapped0[j] := by simp [List.getD_eq_getElem?_getD, hjs]
    rw [this]; exact le_of_lt (hprop _ (List.getElem_mem hjs))
  have := ht j hj
  simp only [tree1] at this
  exact C18_tree1_invariant E F.ctx _ j _ _ hiv (by rw [hsize]; exact hn) _ this

/-- what a tree handed out by the forest looks like from the outside: its columns, its root ranges (the pushed-down
column ranges) and its shape (children = selected halves, sub-nodes = projections, recursively) -/
def GoodTree (F : Forest α) (comb : List Nat) (t : Node α) : Prop :=
  t.data.comb = comb ∧ t.data.snapped = comb.map (fun j => F.snapped.getD j default) ∧ Shape t

/-- T18  whenever `Forest.get_tree` returns a tree — for one column or a combination of several — that tree has the
requested columns, starts from the pushed-down column ranges, is well-shaped including its sub-nodes (the sub-node
handed to every node is the node of the lower-dimensional tree with the same ranges minus one dimension); and for two
or more columns it holds every row exactly once and satisfies the invariant. -/
theorem C18_forest_tree (E : Env α) (inp : ForestIn α) (F : Forest α) (hinit : Forest.init E inp = .ok F)
    (hn : 0 < inp.raw.size) :
    ∀ (fuel : Nat) (comb : List Nat) (t : Node α), 1 ≤ comb.length → F.tree? E fuel comb = some t →
      GoodTree F comb t ∧
      (2 ≤ comb.length → TInv E F.ctx (comb.map fun j => F.snapped.getD j default) t ∧
        t.allRows.Perm (List.range F.ctx.data.size)) := by
  obtain ⟨_, _, _, hsize, hsn, _⟩ := forest_init_trees1 E inp F hinit
  intro fuel comb t hk h
  refine forest_tree_induct E F (fun comb t => GoodTree F comb t ∧
    (2 ≤ comb.length → TInv E F.ctx (comb.map fun j => F.snapped.getD j default) t ∧
      t.allRows.Perm (List.range F.ctx.data.size))) (fun j hj => ?_) (fun fuel comb subTrees t hk1 hlenS hsubs h => ?_)
    fuel comb t h
  · obtain ⟨out, hTO, _, hc, _, _⟩ := C18_forest_trees1 E inp F hinit hn j hj
    have hsh := hTO.shape
    refine ⟨⟨hc, ?_, hsh⟩, fun h2 => by simp at h2⟩
    obtain ⟨iv, hiv⟩ := List.length_eq_one_iff.mp (show (F.trees1[j]).data.snapped.length = 1 by rw [hsh.lenS, hc]; rfl)
    rw [hiv, hsn]
    simp [List.getD_eq_getElem?_getD, hj, hiv]
  · -- the sub-trees are the right projections
    have hsub : SubsOK comb (comb.map fun j => F.snapped.getD j default) (subTrees.map some) := by
      have each : ∀ (i : Nat) (s : Node α), (subTrees.map some)[i]? = some (some s) →
          i < comb.length ∧ GoodTree F (comb.eraseIdx (comb.length - 1 - i)) s := by
        intro i s hi
        obtain ⟨hil, rfl⟩ := List.getElem?_eq_some_iff.mp (by simpa using hi : subTrees[i]? = some s)
        exact ⟨hlenS ▸ hil, (hsubs i hil).2.1⟩
      exact ⟨fun i s hi => ⟨(each i s hi).1, (each i s hi).2.1, by rw [(each i s hi).2.2.1, List.eraseIdx_map]⟩,
        fun i s hi => (each i s hi).2.2.2, fun _ => by simp [hlenS]⟩
    obtain ⟨hT, hp, hs', hc⟩ := C18_tree_invariant E F.ctx 0 comb _ _ _ (by simp) hsub (by rw [hsize]; exact hn) t h
    exact ⟨⟨hc, hs', (TInvO.ofTInv hT).shape⟩, fun _ => ⟨hT, hp⟩⟩

/-- the two cases of `C18_forest_trees1` / `C18_forest_tree` in one statement: every tree `Forest.get_tree` returns holds
every row exactly once and satisfies the invariant with exemptions, relative to the root ranges it was built for: the
column's snapped range for a one-column tree (exempt: rows beyond the pushed-down range), the pushed-down column ranges
for several columns (no exemptions). -/
theorem forest_tree_invO (E : Env α) (inp : ForestIn α) (F : Forest α) (hinit : Forest.init E inp = .ok F)
    (hn : 0 < inp.raw.size) (fuel : Nat) (comb : List Nat) (t : Node α) (hk : 1 ≤ comb.length)
    (ht : F.tree? E fuel comb = some t) :
    GoodTree F comb t ∧
    ∃ out, TInvO E F.ctx (comb.map fun j => (if comb.length = 1 then F.rootSnapped0 else F.snapped).getD j default) out t ∧
      t.allRows.Perm (List.range F.ctx.data.size) := by
  obtain ⟨hg, h2⟩ := C18_forest_tree E inp F hinit hn fuel comb t hk ht
  refine ⟨hg, ?_⟩
  by_cases h1 : ∃ j, comb = [j]
  · obtain ⟨j, rfl⟩ := h1
    obtain ⟨hj, rfl⟩ := Forest.tree?_single ht
    obtain ⟨out, hTO, hperm, _⟩ := C18_forest_trees1 E inp F hinit hn j hj
    exact ⟨out, by simpa using hTO, hperm⟩
  · have h1' : comb.length ≠ 1 := fun hl => h1 (List.length_eq_one_iff.mp hl)
    rw [if_neg h1']
    exact ⟨[], TInvO.ofTInv (h2 (by omega)).1, (h2 (by omega)).2⟩

/-- T18.f (global, projections)  in a tree satisfying the invariant, the `k`-th sub-node of every node is a node of a
lower-dimensional tree over the node's columns without column `dims-1-k`, whose ranges are the node's ranges in the
remaining columns — i.e. it *is* the node's projection; so "no stub" (`C18_not_stub_projection`) means a projection of
this very range passed its threshold. -/
theorem C18_subnodes_are_projections (E : Env α) (c : FCtx α) (root : List (Ival α)) (t n : Node α) (hT : TInv E c root t)
    (hs : Node.Sub n t) (k : Nat) (s : Node α) (hk : n.subnodes[k]? = some (some s)) :
    k < n.data.comb.length ∧ s.data.comb = n.data.comb.eraseIdx (n.data.comb.length - 1 - k) ∧
    s.data.snapped = n.data.snapped.eraseIdx (n.data.comb.length - 1 - k) ∧ Shape s := by
  have h := (TInv.sub hs hT).nodeOK.subsOK
  exact ⟨(h.1 k s hk).1, (h.1 k s hk).2.1, (h.1 k s hk).2.2, h.2.1 k s hk⟩

/-- Non-vacuity of the invariant's premises: the root leaf `Forest` starts from satisfies `TInv`, and every row may be
handed to a root (so `C18_add_row_invariant` applies to the first insertion, and by its conclusion to every later one). -/
example (E : Env α) (c : FCtx α) (comb : List Nat) (seed : UInt64) (snapped : List (Ival α)) (hlen : snapped.length = comb.length)
    (h1 : comb.length ≤ 1) :
    TInv E c snapped (mkLeaf E c comb [] seed [] snapped 0) ∧
    ∀ row, RowInside c snapped (mkLeaf E c comb [] seed [] snapped 0).data row :=
  ⟨mkLeaf_ok E c snapped comb [] seed [] snapped 0 hlen (fun j _ hv => ⟨hv.1, hv.2, fun _ => rfl⟩) (subsOK_nil h1),
   fun row => rowInside_root c _ row⟩

/-- Non-vacuity: the range `[0,4)` over ℚ is proper and `3` lies in it, routed to the upper half `[2,4)`. -/
example : (⟨0, 4⟩ : Ival ℚ).halfIndex 3 = 1 := by
  simp [Ival.halfIndex, Ival.isSing, Ival.middle]; norm_num

end
