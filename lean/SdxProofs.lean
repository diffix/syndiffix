import SdxProofs.Field
import SdxProofs.IntervalLemmas
import SdxProofs.SnapLemmas
import SdxProofs.AnonLemmas
import SdxProofs.CounterLemmas
import SdxProofs.FlattenLemmas
import SdxProofs.TreeLemmas
import SdxProofs.Height
import SdxProofs.ValueMap
import SdxProofs.CellOrigin
import SdxProofs.Materialize
import SdxProofs.InForest
