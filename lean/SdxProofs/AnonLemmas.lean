import SdxProofs.Field
import SdxModel.Anonymizer
import SdxModel.Counters
set_option linter.unusedSectionVars false
/-! Helper lemmas for `anonymizer.py`: the low-count rule over an ordered field. -/

section
variable {α : Type} [Field α] [LinearOrder α] [IsStrictOrderedRing α] [FloorRing α]

/-- the seed that keys the suppression noise of an entity set -/
def suppressSeed (E : Env α) (salt : ByteArray) (seed : UInt64) : UInt64 :=
  mixSeed E "suppress" (saltedSeed E salt seed)

theorem generateNoise_one (E : Env α) (salt : ByteArray) (step : String) (sd : α) (l : UInt64) :
    generateNoise E salt step sd [l] = sd * E.z (mixSeed E step (saltedSeed E salt l)) := by
  simp [generateNoise, randomNormal]

theorem generateNoise_two (E : Env α) (salt : ByteArray) (step : String) (sd : α) (l₁ l₂ : UInt64) :
    generateNoise E salt step sd [l₁, l₂] =
      sd * E.z (mixSeed E step (saltedSeed E salt l₁)) + sd * E.z (mixSeed E step (saltedSeed E salt l₂)) := by
  simp [generateNoise, randomNormal]

/-- The per-group decision in closed form. -/
theorem trackerLow_iff (E : Env α) (salt : ByteArray) (p : SuppParams α) (t : Int × UInt64) :
    trackerLow E salt p t = true ↔
      t.1 < p.lt ∨ (t.1 : α) < p.sd * E.z (suppressSeed E salt t.2) + (p.gap * p.sd + p.lt) := by
  simp [trackerLow, generateNoise_one, suppressSeed]

/-- the counter's answer is the rule on its trackers: with no tracker left the rule says "not low" by itself -/
theorem ECounter.isLowCount_eq (E : Env α) (salt : ByteArray) (p : SuppParams α) (c : ECounter) :
    c.isLowCount E salt p = _root_.isLowCount E salt p c.trackers := by
  cases c with
  | unique => rfl
  | generic cap sets =>
    show (if _ then false else _) = _
    split_ifs with h
    · rw [List.isEmpty_iff.mp h]; rfl
    · rfl

theorem randomUniform_range (iv : FlatInterval) (seed : UInt64) (h : iv.lower ≤ iv.upper) :
    iv.lower ≤ randomUniform iv seed ∧ randomUniform iv seed ≤ iv.upper := by
  unfold randomUniform
  have hpos : (0 : Int) < iv.upper - iv.lower + 1 := by omega
  have h1 := Int.emod_nonneg (seed.toNat : Int) (ne_of_gt hpos)
  have h2 := Int.emod_lt_of_pos (seed.toNat : Int) hpos
  omega

end
