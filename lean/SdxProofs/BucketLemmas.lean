import SdxProofs.Field
import SdxModel.Bucket
import Mathlib.Algebra.BigOperators.Group.List.Basic
import Mathlib.Algebra.Order.BigOperators.Group.List
import Mathlib.Tactic.FieldSimp
set_option linter.unusedSectionVars false
/-! The carry loop of `_adjust_counts` over an ordered field with floor. -/

section
variable {α : Type} [Field α] [LinearOrder α] [IsStrictOrderedRing α] [FloorRing α]

theorem adjustCountsPure_eq (cs : List Int) (current target : Int) :
    adjustCountsPure (α := α) cs current target = adjustLoop ((target : α) / current) cs 0 := by
  rw [adjustCountsPure, ofInt_eq, ofInt_eq, ofInt_eq, Int.cast_zero]

theorem adjustLoop_one (cs : List Int) : adjustLoop (1 : α) cs 0 = cs := by
  induction cs with
  | nil => rfl
  | cons c cs ih =>
    simp only [adjustLoop, ofInt_eq, mul_one, sfloor_eq, Int.floor_intCast, sub_self, add_zero, Int.cast_one]
    rw [if_neg (not_lt.mpr zero_le_one), trunc_intCast, ih]

/-- the loop invariant: the emitted counts plus the carried error equal the exact scaled total -/
theorem adjustLoop_spec (ratio : α) (hr : 0 ≤ ratio) (cs : List Int) (hcs : ∀ c ∈ cs, 0 ≤ c) (acc : α)
    (h0 : 0 ≤ acc) (h1 : acc ≤ 1) :
    (∀ x ∈ adjustLoop ratio cs acc, 0 ≤ x) ∧ (adjustLoop ratio cs acc).length = cs.length ∧
    ∃ accf : α, 0 ≤ accf ∧ accf ≤ 1 ∧
      (((adjustLoop ratio cs acc).sum : Int) : α) + accf = ratio * ((cs.sum : Int) : α) + acc := by
  induction cs generalizing acc with
  | nil => exact ⟨by simp [adjustLoop], rfl, acc, h0, h1, by simp [adjustLoop]⟩
  | cons c cs ih =>
    rw [List.forall_mem_cons] at hcs
    have hadj : (0 : α) ≤ (c : α) * ratio := mul_nonneg (Int.cast_nonneg hcs.1) hr
    have hf0 := Int.fract_nonneg ((c : α) * ratio)
    have hf1 := (Int.fract_lt_one ((c : α) * ratio)).le
    have hfn : (0 : Int) ≤ ⌊(c : α) * ratio⌋ := Int.floor_nonneg.mpr hadj
    unfold Int.fract at hf0 hf1
    simp only [adjustLoop, ofInt_eq, sfloor_eq, Int.cast_one]
    -- either way the emitted count and the new carry add up to `c * ratio + acc`, and the carry stays in `[0, 1]`
    split_ifs with hgt
    · obtain ⟨p1, p2, accf, a0, a1, hs⟩ := ih hcs.2 _ (sub_nonneg.mpr hgt.le) (sub_le_iff_le_add.mpr (add_le_add h1 hf1))
      rw [trunc_of_nonneg (add_nonneg hadj zero_le_one), Int.floor_add_one]
      refine ⟨List.forall_mem_cons.mpr ⟨Int.add_nonneg hfn zero_le_one, p1⟩, congrArg (· + 1) p2, accf, a0, a1, ?_⟩
      rw [List.sum_cons, List.sum_cons, Int.cast_add, Int.cast_add, add_assoc, hs]
      push_cast; ring
    · obtain ⟨p1, p2, accf, a0, a1, hs⟩ := ih hcs.2 _ (add_nonneg h0 hf0) (not_lt.mp hgt)
      rw [trunc_of_nonneg hadj]
      refine ⟨List.forall_mem_cons.mpr ⟨hfn, p1⟩, congrArg (· + 1) p2, accf, a0, a1, ?_⟩
      rw [List.sum_cons, List.sum_cons, Int.cast_add, Int.cast_add, add_assoc, hs]
      ring

/-- Rescaling non-negative counts with positive sum `current` to an integer target `≥ 0` yields
non-negative counts, as many as before, summing to the target or one less. -/
theorem C10_adjust_sum_core (cs : List Int) (current target : Int) (hcs : ∀ c ∈ cs, 0 ≤ c) (hsum : cs.sum = current)
    (hpos : 0 < current) (ht : 0 ≤ target) :
    (∀ x ∈ adjustCountsPure (α := α) cs current target, 0 ≤ x) ∧
    (adjustCountsPure (α := α) cs current target).length = cs.length ∧
    ((adjustCountsPure (α := α) cs current target).sum = target ∨
     (adjustCountsPure (α := α) cs current target).sum = target - 1) := by
  have hcur : (0 : α) < (current : α) := Int.cast_pos.mpr hpos
  obtain ⟨p1, p2, accf, a0, a1, hs⟩ := adjustLoop_spec ((target : α) / (current : α))
    (div_nonneg (Int.cast_nonneg ht) hcur.le) cs hcs 0 le_rfl zero_le_one
  rw [adjustCountsPure_eq]
  refine ⟨p1, p2, ?_⟩
  -- the carried error is the integer `target - sum`, and lies in `[0, 1]`
  rw [hsum, div_mul_cancel₀ _ hcur.ne', add_zero, ← eq_sub_iff_add_eq', ← Int.cast_sub] at hs
  rw [hs, Int.cast_nonneg_iff] at a0
  rw [hs, ← Int.cast_one, Int.cast_le] at a1
  omega

end
