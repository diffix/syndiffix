import SdxProofs.StitchLemmas
import SdxModel.Sample
set_option linter.unusedSectionVars false
set_option linter.unusedVariables false
/-!
# `build_table` across clusters: what stitching and patching keep

A table is *well-typed for* a predicate `P column cell` when each of its rows has one cell per column and the cell in the
place of column `j` satisfies `P j`. Stitching and patching only recombine cells of rows of their two inputs, each cell staying
under its own column (`_locate_columns` indexes each side by the column's position in that side's combination), so
well-typedness goes through `_do_stitch` / `_do_patch` and, by induction over the derived clusters, through the whole
`build_table`.  Patching and left-owned stitching also keep the number of rows of the table so far.
-/

section
variable {α : Type} [Add α] [Sub α] [Mul α] [Div α] [LT α] [LE α] [BEq α]
  [DecidableLT α] [DecidableLE α] [ScalarOps α] [Inhabited α]
variable {β : Type} [Inhabited β]

/-- every row has one cell per column, and the cell standing for column `j` satisfies `P j` -/
def TableOK (P : Nat → β × α → Prop) (t : MTable β α) : Prop :=
  ∀ row ∈ t.1, row.length = t.2.length ∧ ∀ (k : Nat) (hk : k < t.2.length), P t.2[k] (row.getD k default)

def RowOK (P : Nat → β × α → Prop) (comb : List Nat) (row : MRow β α) : Prop :=
  row.length = comb.length ∧ ∀ (k : Nat) (hk : k < comb.length), P comb[k] (row.getD k default)

/-- `_locate_columns` indexes a column by its position in each side's combination -/
theorem locateColumns_loc (lc rc : List Nat) (c : ColumnLocation) (hc : c ∈ locateColumns lc rc) :
    (c.source = .left → ∃ i, c.leftIndex = some i ∧ ∃ h : i < lc.length, lc[i] = c.columnId) ∧
    (c.source = .right → ∃ i, c.rightIndex = some i ∧ ∃ h : i < rc.length, rc[i] = c.columnId) ∧
    (c.source = .shared → (∃ i, c.leftIndex = some i ∧ ∃ h : i < lc.length, lc[i] = c.columnId) ∧
      ∃ i, c.rightIndex = some i ∧ ∃ h : i < rc.length, rc[i] = c.columnId) := by
  unfold locateColumns at hc
  simp only at hc
  rw [(sortAscStable_perm _ _).mem_iff] at hc
  obtain ⟨x, hx, rfl⟩ := List.mem_map.mp hc
  have hx' : x ∈ lc ∨ x ∈ rc := List.mem_append.mp (List.mem_eraseDups.mp hx)
  simp only
  cases hl : lc.idxOf? x with
  | none =>
    cases hr : rc.idxOf? x with
    | none => exact absurd hx' (not_or.mpr ⟨List.idxOf?_eq_none_iff.mp hl, List.idxOf?_eq_none_iff.mp hr⟩)
    | some k => exact ⟨nofun, fun _ => ⟨k, rfl, List.idxOf?_some_getElem hr⟩, nofun⟩
  | some i =>
    cases hr : rc.idxOf? x with
    | none => exact ⟨fun _ => ⟨i, rfl, List.idxOf?_some_getElem hl⟩, nofun, nofun⟩
    | some k => exact ⟨nofun, nofun, fun _ => ⟨⟨i, rfl, List.idxOf?_some_getElem hl⟩, ⟨k, rfl, List.idxOf?_some_getElem hr⟩⟩⟩

/-- a merged row is well-typed for the located columns when both of its source rows are -/
theorem mergeRow_ok (P : Nat → β × α → Prop) (lc rc : List Nat) (pick : Bool) (l r : MRow β α)
    (hl : RowOK P lc l) (hr : RowOK P rc r) :
    RowOK P ((locateColumns lc rc).map (·.columnId)) (mergeRow (locateColumns lc rc) pick l r) := by
  refine ⟨by simp [mergeRow], fun k hk => ?_⟩
  have hk' : k < (locateColumns lc rc).length := by simpa using hk
  obtain ⟨hL, hR, hS⟩ := locateColumns_loc lc rc _ (List.getElem_mem hk')
  unfold mergeRow
  rw [List.getD_map_of_lt _ _ _ _ hk', List.getElem_map]
  generalize (locateColumns lc rc)[k] = c at hL hR hS
  -- a cell taken from the side that the column's index points into stands under its own column
  have fromL : (∃ i, c.leftIndex = some i ∧ ∃ h : i < lc.length, lc[i] = c.columnId) →
      P c.columnId (l.getD (c.leftIndex.getD 0) default) := fun ⟨i, hi, h1, h2⟩ => by
    rw [hi, Option.getD_some, ← h2]; exact hl.2 i h1
  have fromR : (∃ i, c.rightIndex = some i ∧ ∃ h : i < rc.length, rc[i] = c.columnId) →
      P c.columnId (r.getD (c.rightIndex.getD 0) default) := fun ⟨i, hi, h1, h2⟩ => by
    rw [hi, Option.getD_some, ← h2]; exact hr.2 i h1
  cases hs : c.source with
  | left => exact fromL (hL hs)
  | right => exact fromR (hR hs)
  | shared =>
    cases pick
    · exact fromR (hS hs).2
    · exact fromL (hS hs).1

theorem TableOK_iff (P : Nat → β × α → Prop) (t : MTable β α) : TableOK P t ↔ ∀ row ∈ t.1, RowOK P t.2 row := Iff.rfl

/-- a table stitched from well-typed tables is well-typed -/
theorem StitchedFrom.tableOK (P : Nat → β × α → Prop) {owner : StitchOwner} {left right res : MTable β α}
    (hcols : res.2 = (locateColumns left.2 right.2).map (·.columnId))
    (h : StitchedFrom (locateColumns left.2 right.2) owner left.1 right.1 res.1)
    (hl : TableOK P left) (hr : TableOK P right) : TableOK P res := by
  obtain ⟨pairs, hres, hmem, _⟩ := h
  intro row hrow
  rw [hres] at hrow
  obtain ⟨t, ht, rfl⟩ := List.mem_map.mp hrow
  exact hcols ▸ mergeRow_ok P left.2 right.2 t.2.2 t.1 t.2.1 (hl t.1 (hmem t ht).1) (hr t.2.1 (hmem t ht).2)

/-- patching keeps well-typedness and the rows of the left table -/
theorem doPatch_ok (P : Nat → β × α → Prop) (left right res : MTable β α) (s s' : List (Draw α))
    (hl : TableOK P left) (hr : TableOK P right) (h : (doPatch left right).run s = .ok (res, s')) :
    TableOK P res ∧ res.1.length = left.1.length :=
  have ⟨hcols, hst⟩ := doPatch_stitched left right res s s' h
  ⟨hst.tableOK P hcols hl hr, hst.length_eq⟩

/-- with the left side as owner a stitch keeps the number of left rows -/
theorem doStitch_rows (snapped : List (Ival α)) (isIntegral : List Bool) (entropy : List α) (threshRel : α)
    (left right res : MTable β α) (dc : DerivedCluster) (s s' : List (Draw α)) (ho : dc.owner = .left)
    (h : (doStitch snapped isIntegral entropy threshRel left right dc).run s = .ok (res, s')) :
    res.1.length = left.1.length :=
  (ho ▸ (doStitch_spec snapped isIntegral entropy threshRel left right res dc s s' h).2).length_eq

/-- stitching keeps well-typedness -/
theorem doStitch_ok (P : Nat → β × α → Prop) (snapped : List (Ival α)) (isIntegral : List Bool) (entropy : List α) (threshRel : α)
    (left right res : MTable β α) (dc : DerivedCluster) (s s' : List (Draw α))
    (hl : TableOK P left) (hr : TableOK P right)
    (h : (doStitch snapped isIntegral entropy threshRel left right dc).run s = .ok (res, s')) :
    TableOK P res :=
  have ⟨hcols, hst⟩ := doStitch_spec snapped isIntegral entropy threshRel left right res dc s s' h
  hst.tableOK P hcols hl hr

/-- the tables `materialize_tree` hands to `build_table`, for the column lists `Q` singles out (the clusters of the plan at hand), are
well-typed for `P`: an assumption of the composed theorems, discharged for concrete `P` from the one-cluster theorems -/
def MaterializeOKFor (E : Env α) (F : Forest α) (convs : List (Conv α)) (Q : List Nat → Prop) (P : Nat → Cell α × α → Prop) : Prop :=
  ∀ (cols : List Nat), Q cols → ∀ (streams : List Nat × List (Draw α)) (s s' : List (Draw α)) (res : MTable (Cell α) α),
    (materializeGM E F convs cols streams).run s = .ok (res, s') → TableOK P res

/-- for every non-empty column list -/
def MaterializeOK (E : Env α) (F : Forest α) (convs : List (Conv α)) (P : Nat → Cell α × α → Prop) : Prop :=
  MaterializeOKFor E F convs (fun cols => 1 ≤ cols.length) P

/-- One rule for every property of the table `build_table` assembles. `I done t` speaks of the table so far and of the derived clusters
already merged into it: it holds of the initial cluster's microtable and is kept when the next cluster's microtable is stitched onto
the table (patching, for a cluster without stitch columns, is stitching with the left side as owner). -/
theorem buildTable_induct (E : Env α) (F : Forest α) (convs : List (Conv α)) (isIntegral : List Bool) (entropy : List α)
    (threshRel : α) (cl : Clusters) (streams : List (List Nat × List (Draw α))) (s s' : List (Draw α))
    (res : MTable (Cell α) α) (I : List DerivedCluster → MTable (Cell α) α → Prop)
    (hinit : ∀ init s0, (materializeGM E F convs cl.initial (streams.getD 0 ([], []))).run s = .ok (init, s0) → I [] init)
    (hstep : ∀ dc ∈ cl.derivedClusters, ∀ done acc right st s1 s2 r, I done acc →
      (materializeGM E F convs (dc.stitch ++ dc.derived) st).run s1 = .ok (right, s2) →
      r.2 = (locateColumns acc.2 right.2).map (·.columnId) →
      StitchedFrom (locateColumns acc.2 right.2) (if dc.stitch = [] then .left else dc.owner) acc.1 right.1 r.1 →
      I (done ++ [dc]) r)
    (h : (buildTable E F convs isIntegral entropy threshRel cl streams).run s = .ok (res, s')) :
    I cl.derivedClusters res := by
  unfold buildTable at h
  obtain ⟨acc0, s0, h0, h⟩ := StateT_bind_ok h
  have := foldlM_inv _ (fun (d : List (DerivedCluster × Nat)) t => I (d.map (·.1)) t) _ [] acc0 s0 res s'
    (fun p hp d acc s1 acc1 s3 hI hstep' => by
      obtain ⟨right, s2, hm, hstep'⟩ := StateT_bind_ok hstep'
      rw [List.map_append]
      refine hstep p.1 (List.of_mem_zip hp).1 _ acc right _ s1 s2 acc1 hI hm ?_ ?_
      all_goals split_ifs at hstep' with he
      · exact (doPatch_stitched acc right acc1 _ _ hstep').1
      · exact (doStitch_spec _ _ _ _ acc right acc1 p.1 _ _ hstep').1
      · rw [if_pos (List.isEmpty_iff.mp he)]; exact (doPatch_stitched acc right acc1 _ _ hstep').2
      · rw [if_neg (fun e => he (List.isEmpty_iff.mpr e))]; exact (doStitch_spec _ _ _ _ acc right acc1 p.1 _ _ hstep').2)
    (hinit acc0 s0 h0) h
  rwa [List.nil_append, List.map_fst_zip (by simp)] at this

/-- **`build_table`, cells, for the clusters of a plan.**  If the microtable of every cluster of the plan (`Q` holds of the initial cluster
and of `stitch ++ derived` of every derived cluster) is well-typed for `P`, so is the table `build_table` assembles. -/
theorem buildTable_cells_for (E : Env α) (F : Forest α) (convs : List (Conv α)) (isIntegral : List Bool) (entropy : List α)
    (threshRel : α) (cl : Clusters) (streams : List (List Nat × List (Draw α))) (s s' : List (Draw α))
    (res : MTable (Cell α) α) (Q : List Nat → Prop) (P : Nat → Cell α × α → Prop)
    (hini : Q cl.initial) (hder : ∀ dc ∈ cl.derivedClusters, Q (dc.stitch ++ dc.derived))
    (hM : MaterializeOKFor E F convs Q P)
    (h : (buildTable E F convs isIntegral entropy threshRel cl streams).run s = .ok (res, s')) :
    TableOK P res :=
  buildTable_induct E F convs isIntegral entropy threshRel cl streams s s' res (fun _ t => TableOK P t)
    (fun _ _ h0 => hM _ hini _ _ _ _ h0)
    (fun dc hdc _ _ _ _ _ _ _ hacc hm hcols hst => hst.tableOK P hcols hacc (hM _ (hder dc hdc) _ _ _ _ hm)) h

/-- **`build_table`, cells.**  Whatever the plan (non-empty clusters) and the RNG streams, if every microtable is well-typed for
`P`, so is the table `build_table` assembles: every cell of the synthetic table is, under its own column, a cell of some cluster's
microtable. -/
theorem buildTable_cells (E : Env α) (F : Forest α) (convs : List (Conv α)) (isIntegral : List Bool) (entropy : List α)
    (threshRel : α) (cl : Clusters) (streams : List (List Nat × List (Draw α))) (s s' : List (Draw α))
    (res : MTable (Cell α) α) (P : Nat → Cell α × α → Prop)
    (hini : 1 ≤ cl.initial.length) (hder : ∀ dc ∈ cl.derivedClusters, 1 ≤ dc.derived.length)
    (hM : MaterializeOK E F convs P)
    (h : (buildTable E F convs isIntegral entropy threshRel cl streams).run s = .ok (res, s')) :
    TableOK P res :=
  buildTable_cells_for E F convs isIntegral entropy threshRel cl streams s s' res (fun cols => 1 ≤ cols.length) P hini
    (fun dc hdc => by have := hder dc hdc; simp only [List.length_append]; omega) hM h

/-- **`build_table`, rows.**  When every derived cluster is patched in (no stitch columns: `NoClustering`) or stitched with the
left side as owner, the assembled table has exactly as many rows as the microtable of the initial cluster. -/
theorem buildTable_rows (E : Env α) (F : Forest α) (convs : List (Conv α)) (isIntegral : List Bool) (entropy : List α)
    (threshRel : α) (cl : Clusters) (streams : List (List Nat × List (Draw α))) (s s' : List (Draw α))
    (res : MTable (Cell α) α)
    (hown : ∀ dc ∈ cl.derivedClusters, dc.stitch = [] ∨ dc.owner = .left)
    (h : (buildTable E F convs isIntegral entropy threshRel cl streams).run s = .ok (res, s')) :
    ∃ (init : MTable (Cell α) α) (s0 : List (Draw α)),
      (materializeGM E F convs cl.initial (streams.getD 0 ([], []))).run s = .ok (init, s0) ∧ res.1.length = init.1.length :=
  buildTable_induct E F convs isIntegral entropy threshRel cl streams s s' res
    (fun _ t => ∃ init s0, (materializeGM E F convs cl.initial (streams.getD 0 ([], []))).run s = .ok (init, s0) ∧
      t.1.length = init.1.length)
    (fun init s0 h0 => ⟨init, s0, h0, rfl⟩)
    (fun dc hdc _ _ _ _ _ _ _ ⟨init, s0, h0, hlen⟩ _ _ hst => by
      have : (if dc.stitch = [] then StitchOwner.left else dc.owner) = .left := by
        split_ifs with he
        · rfl
        · exact (hown dc hdc).resolve_left he
      exact ⟨init, s0, h0, (this ▸ hst).length_eq.trans hlen⟩) h

end

section
variable {α : Type} [Add α] [Sub α] [Mul α] [Div α] [LT α] [LE α] [BEq α]
  [DecidableLT α] [DecidableLE α] [ScalarOps α] [Inhabited α]

/-- what `materialize_tree`, as `build_table` calls it, returns: the microtable of the sorted column combination -/
theorem materializeGM_tree (E : Env α) (F : Forest α) (convs : List (Conv α)) (cols : List Nat)
    (streams : List Nat × List (Draw α)) (s s' : List (Draw α)) (res : MTable (Cell α) α)
    (h : (materializeGM E F convs cols streams).run s = .ok (res, s')) :
    res.2 = sortAscStable (fun a b => decide (a < b)) cols ∧
    ∃ drawn left, materializeTree E F convs (sortAscStable (fun a b => decide (a < b)) cols) streams.1 streams.2 = .ok (res.1, drawn, left) := by
  unfold materializeGM at h
  obtain ⟨_, _, _, h⟩ := StateT_bind_ok h
  obtain ⟨_, _, _, h⟩ := StateT_bind_ok h
  simp only at h
  split at h
  · cases h
  · rename_i rows drawn left hm
    cases h
    exact ⟨rfl, drawn, left, hm⟩

/-- a property of the microtable of every non-empty sorted combination is a property of every microtable `build_table` asks for -/
theorem MaterializeOK.of_tree (E : Env α) (F : Forest α) (convs : List (Conv α)) (P : Nat → Cell α × α → Prop)
    (h : ∀ (comb : List Nat), 1 ≤ comb.length → ∀ (hstream : List Nat) (mstream : List (Draw α)) (rows : List (List (Cell α × α)))
      (drawn left : Nat), materializeTree E F convs comb hstream mstream = .ok (rows, drawn, left) → TableOK P (rows, comb)) :
    MaterializeOK E F convs P := by
  intro cols hc streams s s' res hm
  obtain ⟨hcomb, drawn, left, hmt⟩ := materializeGM_tree E F convs cols streams s s' res hm
  have := h _ (by rw [sortAscStable_length]; exact hc) _ _ res.1 drawn left hmt
  rwa [← hcomb] at this

end
