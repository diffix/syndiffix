import Props.C11
set_option linter.unusedSectionVars false
set_option linter.unusedVariables false
/-!
# Where a generated cell comes from

`generate_microdata` run on a bucket list: every row comes from one bucket, every cell of the row from that bucket's range in the
cell's column, decoded by that column's convertor (`generateCell`). For a string column: a cell is a null, a mask
`prefix*index`, the string of a single-point range, or a string whose index is marked safe.
-/

section
variable {α : Type} [Field α] [LinearOrder α] [IsStrictOrderedRing α] [FloorRing α] [Inhabited α]

/-- the origin of a cell: some state from which `generateCell` on this range, convertor and null stand-in produced it -/
def CellFrom (E : Env α) (src : Ival α × Conv α × α) (cell : Cell α × α) : Prop :=
  ∃ s s', (generateCell E src.2.1 src.2.2 src.1).run s = .ok (cell, s')

/-- every row of the generated microdata is decoded, cell by cell, from the ranges of one of the buckets -/
theorem microdata_cells (E : Env α) (convs : List (Conv α)) (nullMaps : List α) (buckets : List (BCell α))
    (stream rest : List (Draw α)) (rows : List (List (Cell α × α)))
    (h : (generateMicrodata E convs nullMaps buckets).run stream = .ok (rows, rest)) :
    ∀ row ∈ rows, ∃ b ∈ buckets, List.Forall₂ (CellFrom E) (List.zip b.ivs (List.zip convs nullMaps)) row := by
  obtain ⟨rs, rfl, hall⟩ := generateMicrodata_ok E convs nullMaps buckets stream rest rows h
  intro row hrow
  obtain ⟨r, hr, hrow⟩ := List.mem_flatten.mp hrow
  obtain ⟨b, hb, _, hrows⟩ := forall₂_mem_right hall r hr
  obtain ⟨s, s', hrun⟩ := hrows row hrow
  exact ⟨b, hb, mapM_forall₂_of_ok (fun (x : Ival α × Conv α × α) => generateCell E x.2.1 x.2.2 x.1) (CellFrom E) _
    (fun x _ s4 c s5 hc => ⟨s4, s5, hc⟩) s row s' hrun⟩

/-- `_generate`: a null without a draw for the null range, `from_interval` for any other -/
theorem generateCell_ok (E : Env α) (cv : Conv α) (nm : α) (iv : Ival α) (s s' : List (Draw α)) (c : Cell α × α)
    (h : (generateCell E cv nm iv).run s = .ok (c, s')) :
    (iv.lo = nm ∧ c = (.null, nm)) ∨ (iv.lo ≠ nm ∧ (fromInterval E cv iv).run s = .ok (c, s')) := by
  unfold generateCell at h
  split_ifs at h with hnull
  · exact Or.inl ⟨by simpa using hnull, (StateT_pure_ok h).1.symm⟩
  · exact Or.inr ⟨by simpa using hnull, h⟩

/-- `StringConvertor.from_interval` returns a string: a mask, the string of a single-point range, or a string whose index is marked safe -/
theorem fromInterval_string_origin (E : Env α) (vm : List String) (safe : List Nat) (iv : Ival α) (s s' : List (Draw α))
    (cell : Cell α) (f : α) (h : (fromInterval E (.string vm safe) iv).run s = .ok ((cell, f), s')) :
    ∃ str, cell = .str str ∧
      ((iv.isSing = true ∧ 0 ≤ (ScalarOps.trunc iv.lo : Int) ∧ vm[(ScalarOps.trunc iv.lo : Int).toNat]? = some str) ∨
      (∃ v ∈ safe, vm[v]? = some str) ∨
      (∃ pre v, str = pre ++ "*" ++ toString (v : Nat))) := by
  unfold fromInterval at h
  simp only at h
  split_ifs at h with hsing hneg
  · cases h
  · split at h
    · rename_i str hstr
      cases (StateT_pure_ok h).1
      exact ⟨str, rfl, Or.inl ⟨hsing, not_lt.mp hneg, hstr⟩⟩
    · cases h
  · obtain ⟨v, _, _, _, hc⟩ := C11_string_result vm safe iv s s' cell f h
    rcases hc with ⟨hs, str, hvm, rfl⟩ | ⟨_, a, b, _, _, rfl⟩
    · exact ⟨str, rfl, Or.inr (Or.inl ⟨v, hs, hvm⟩)⟩
    · exact ⟨_, rfl, Or.inr (Or.inr ⟨_, v, rfl⟩)⟩

/-- `from_interval` never returns a null: it returns a value of the convertor's kind; a string is one of the value map or a mask -/
theorem fromInterval_kind (E : Env α) (cv : Conv α) (iv : Ival α) (s s' : List (Draw α)) (cell : Cell α) (f : α)
    (h : (fromInterval E cv iv).run s = .ok ((cell, f), s')) :
    match (generalizing := false) cv with
    | .bool => ∃ b, cell = .bool b
    | .real _ _ _ => ∃ x, cell = .real x
    | .int _ _ => ∃ i, cell = .int i
    | .timestamp _ _ => ∃ t, cell = .ts t
    | .string vm _ => ∃ str, cell = .str str ∧ ((∃ pre v, str = pre ++ "*" ++ toString (v : Nat)) ∨ str ∈ vm) := by
  cases cv with
  | string vm safe =>
    obtain ⟨str, hc, ⟨_, _, hvm⟩ | ⟨_, _, hvm⟩ | hmask⟩ := fromInterval_string_origin E vm safe iv s s' cell f h
    · exact ⟨str, hc, Or.inr (List.mem_of_getElem? hvm)⟩
    · exact ⟨str, hc, Or.inr (List.mem_of_getElem? hvm)⟩
    · exact ⟨str, hc, Or.inl hmask⟩
  | bool =>
    obtain ⟨v, s1, _, h⟩ := StateT_bind_ok h
    cases (StateT_pure_ok h).1
    exact ⟨_, rfl⟩
  | real a b p =>
    obtain ⟨v, s1, _, h⟩ := StateT_bind_ok h
    cases (StateT_pure_ok h).1
    exact ⟨_, rfl⟩
  | int a b =>
    obtain ⟨v, s1, _, h⟩ := StateT_bind_ok h
    cases (StateT_pure_ok h).1
    exact ⟨_, rfl⟩
  | timestamp a b =>
    obtain ⟨v, s1, _, h⟩ := StateT_bind_ok h
    cases (StateT_pure_ok h).1
    exact ⟨_, rfl⟩

/-- a string cell: a mask, the string of a single-point range, or a string whose index is marked safe -/
theorem string_cell_origin (E : Env α) (vm : List String) (safe : List Nat) (nm : α) (iv : Ival α) (s s' : List (Draw α))
    (str : String) (f : α) (h : (generateCell E (.string vm safe) nm iv).run s = .ok ((.str str, f), s')) :
    (iv.isSing = true ∧ 0 ≤ (ScalarOps.trunc iv.lo : Int) ∧ vm[(ScalarOps.trunc iv.lo : Int).toNat]? = some str) ∨
    (∃ v ∈ safe, vm[v]? = some str) ∨
    (∃ pre v, str = pre ++ "*" ++ toString (v : Nat)) := by
  rcases generateCell_ok E _ nm iv s s' _ h with ⟨_, hc⟩ | ⟨_, h⟩
  · cases hc
  · obtain ⟨str', hc, h⟩ := fromInterval_string_origin E vm safe iv s s' _ f h
    cases hc
    exact h

end
