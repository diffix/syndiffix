import SdxProofs.AnonLemmas
import Mathlib.Data.Finset.Card
set_option linter.unusedSectionVars false
/-! Set semantics of the entity counters (`counters.py`). -/

/-- the set of distinct non-null ids of one id column -/
def entitySet (col : List UInt64) : Finset UInt64 := (col.filter (· ≠ 0)).toFinset

/-- xor of a finite set of ids -/
noncomputable def xorSet (S : Finset UInt64) : UInt64 := xorAll S.toList

instance : RightCommutative (fun (a b : UInt64) => a ^^^ b) := ⟨fun a b c => by
  show a ^^^ b ^^^ c = a ^^^ c ^^^ b
  rw [UInt64.xor_assoc, UInt64.xor_comm b c, ← UInt64.xor_assoc]⟩

theorem xorAll_perm {l l' : List UInt64} (h : l.Perm l') : xorAll l = xorAll l' := by
  unfold xorAll; exact h.foldl_eq 0

theorem xorAll_eq_xorSet {l : List UInt64} (hn : l.Nodup) : xorAll l = xorSet l.toFinset := by
  unfold xorSet
  apply xorAll_perm
  apply List.perm_of_nodup_nodup_toFinset_eq hn (Finset.nodup_toList _)
  simp

/-- what the generic counter knows about one id column `col` after seeing it: `s` -/
def ColInv (cap : Nat) (col s : List UInt64) : Prop :=
  s.Nodup ∧ s.length ≤ cap ∧ (∀ x ∈ s, x ≠ 0 ∧ x ∈ col) ∧ (s.length < cap → ∀ x ∈ col, x ≠ 0 → x ∈ s)

theorem addPid_inv (cap : Nat) (pre s : List UInt64) (x : UInt64) (h : ColInv cap pre s) :
    ColInv cap (pre ++ [x]) (addPid cap s x) := by
  obtain ⟨hn, hl, hm, hc⟩ := h
  unfold addPid
  split
  next hcond =>
    simp only [Bool.and_eq_true, decide_eq_true_eq, bne_iff_ne, ne_eq, Bool.not_eq_true',
      List.contains_eq_mem, decide_eq_false_iff_not] at hcond
    obtain ⟨⟨h1, h2⟩, h3⟩ := hcond
    refine ⟨?_, ?_, ?_, ?_⟩
    · exact List.Nodup.append hn (by simp) (by simpa using h3)
    · simp; omega
    · intro y hy
      simp only [List.mem_append, List.mem_singleton] at hy ⊢
      rcases hy with hy | hy
      · exact ⟨(hm y hy).1, Or.inl (hm y hy).2⟩
      · subst hy; exact ⟨h2, Or.inr rfl⟩
    · intro hlt y hy hy0
      simp only [List.length_append, List.length_singleton] at hlt
      simp only [List.mem_append, List.mem_singleton] at hy ⊢
      rcases hy with hy | hy
      · exact Or.inl (hc (by omega) y hy hy0)
      · exact Or.inr hy
  next hcond =>
    refine ⟨hn, hl, ?_, ?_⟩
    · intro y hy; exact ⟨(hm y hy).1, by simp [(hm y hy).2]⟩
    · intro hlt y hy hy0
      simp only [List.mem_append, List.mem_singleton] at hy
      rcases hy with hy | hy
      · exact hc hlt y hy hy0
      · subst hy
        simp only [Bool.and_eq_true, decide_eq_true_eq, bne_iff_ne, ne_eq, Bool.not_eq_true',
          List.contains_eq_mem, decide_eq_false_iff_not, not_and, not_not] at hcond
        exact hcond ⟨hlt, hy0⟩

theorem foldl_addPid_inv (cap : Nat) (col pre s : List UInt64) (h : ColInv cap pre s) :
    ColInv cap (pre ++ col) (col.foldl (addPid cap) s) := by
  induction col generalizing pre s with
  | nil => simpa using h
  | cons x xs ih =>
    have := ih (pre ++ [x]) (addPid cap s x) (addPid_inv cap pre s x h)
    simpa using this

/-- the state of one id column of the generic counter after the column `col` -/
def colState (cap : Nat) (col : List UInt64) : List UInt64 := col.foldl (addPid cap) []

theorem colState_inv (cap : Nat) (col : List UInt64) : ColInv cap col (colState cap col) := by
  have := foldl_addPid_inv cap col [] [] ⟨List.nodup_nil, by simp, by simp, by simp⟩
  simpa [colState] using this

/-- One id column of the generic counter. It is still tracked iff the column holds fewer than `cap` distinct
non-null ids, and then the counter knows that set exactly: its size and the xor of its members. -/
theorem colState_spec (cap : Nat) (col : List UInt64) :
    ((colState cap col).length < cap ↔ (entitySet col).card < cap) ∧
    ((colState cap col).length < cap →
      (colState cap col).length = (entitySet col).card ∧ xorAll (colState cap col) = xorSet (entitySet col)) := by
  obtain ⟨hn, hl, hm, hc⟩ := colState_inv cap col
  have hsub : (colState cap col).toFinset ⊆ entitySet col := fun y hy => by
    rw [List.mem_toFinset] at hy
    simpa [entitySet] using ⟨(hm y hy).2, (hm y hy).1⟩
  have hle := Finset.card_le_card hsub
  have heq : (colState cap col).length < cap → (colState cap col).toFinset = entitySet col := fun h =>
    hsub.antisymm fun y hy => by
      simp only [entitySet, List.mem_toFinset, List.mem_filter, decide_eq_true_eq] at hy ⊢
      exact hc h y hy.1 hy.2
  rw [List.toFinset_card_of_nodup hn] at hle
  refine ⟨⟨fun h => ?_, fun h => by omega⟩, fun h => ⟨?_, ?_⟩⟩
  · rw [← heq h, List.toFinset_card_of_nodup hn]; exact h
  · rw [← heq h, List.toFinset_card_of_nodup hn]
  · rw [xorAll_eq_xorSet hn, heq h]

/-- column `d` of a list of id rows -/
def idColumn (rows : List (List UInt64)) (d : Nat) : List UInt64 := rows.map (·.getD d 0)

theorem mem_entitySet_idColumn {rows : List (List UInt64)} {d : Nat} {y : UInt64} :
    y ∈ entitySet (idColumn rows d) ↔ (∃ r ∈ rows, r.getD d 0 = y) ∧ y ≠ 0 := by
  simp [entitySet, idColumn]

/-- entity sets only grow with the rows -/
theorem entitySet_mono_subset (h0 all : List (List UInt64)) (hsub : h0 ⊆ all) (k : Nat) :
    entitySet (idColumn h0 k) ⊆ entitySet (idColumn all k) := fun y hy => by
  rw [mem_entitySet_idColumn] at hy ⊢
  exact ⟨hy.1.imp fun r hr => ⟨hsub hr.1, hr.2⟩, hy.2⟩

theorem ECounter.addMany_append (c : ECounter) (a b : List (List UInt64)) :
    c.addMany (a ++ b) = (c.addMany a).addMany b := List.foldl_append

/-- T02.e (state): after any rows, column `d` of the generic counter is `colState` of id column `d`. -/
theorem generic_addMany (cap dims : Nat) (rows : List (List UInt64)) (h : ∀ r ∈ rows, r.length = dims) :
    (CounterKind.generic dims cap).newEntity.addMany rows =
      .generic cap ((List.range dims).map fun d => colState cap (idColumn rows d)) := by
  induction rows using List.reverseRecOn with
  | nil =>
    show ECounter.generic cap (List.replicate dims []) = .generic cap ((List.range dims).map fun _ => [])
    rw [List.map_const', List.length_range]
  | append_singleton rows r ih =>
    have hr : r.length = dims := h r (List.mem_append_right _ (List.mem_singleton_self r))
    rw [ECounter.addMany_append, ih fun r' hr' => h r' (List.mem_append_left _ hr')]
    show ECounter.generic cap (List.zipWith (addPid cap) _ r) = _
    congr 1
    apply List.ext_getElem
    · rw [List.length_zipWith, List.length_map, List.length_map, List.length_range, hr, Nat.min_self]
    · intro d h1 _
      have hd : d < r.length := by rw [List.length_zipWith] at h1; omega
      simp only [List.getElem_zipWith, List.getElem_map, List.getElem_range, colState, idColumn, List.map_append,
        List.foldl_append, List.map_cons, List.map_nil, List.foldl_cons, List.foldl_nil, List.getD_eq_getElem?_getD,
        List.getElem?_eq_getElem hd, Option.getD_some]

/-- The trackers a counter hands to the low-count rule, as a function of the entity *sets* only. -/
noncomputable def specTrackers (cap dims : Nat) (rows : List (List UInt64)) : List (Int × UInt64) :=
  (List.range dims).filterMap fun d =>
    if (entitySet (idColumn rows d)).card < cap then
      some (((entitySet (idColumn rows d)).card : Int), xorSet (entitySet (idColumn rows d)))
    else none
