import Mathlib.Algebra.Order.Floor.Ring
import Mathlib.Algebra.Order.Field.Basic
import Mathlib.Data.Int.Log
import Mathlib.Tactic.Ring
import Mathlib.Tactic.Linarith
import Mathlib.Tactic.Positivity
import SdxModel.Scalar
set_option linter.unusedSectionVars false
/-!
# The exact-arithmetic instantiation of the scalar operations

For every linearly ordered field with a floor function (`ℚ`, `ℝ`, …) the extra operations of
`ScalarOps` are given their mathematical meaning. Theorems about the model are proved for this
instance; the executable driver runs the same definitions at `Float`.
-/

/-- an accumulating loop `acc += f x` is a sum -/
theorem List.foldl_add_eq_sum {M β : Type*} [AddMonoid M] (f : β → M) (l : List β) (a : M) :
    l.foldl (fun acc x => acc + f x) a = a + (l.map f).sum := by
  induction l generalizing a with
  | nil => rw [List.foldl_nil, List.map_nil, List.sum_nil, add_zero]
  | cons x xs ih => rw [List.foldl_cons, ih, List.map_cons, List.sum_cons, add_assoc]

section
variable {α : Type} [Field α] [LinearOrder α] [IsStrictOrderedRing α] [FloorRing α]

noncomputable instance fieldScalarOps : ScalarOps α where
  pySum l := l.sum
  ofInt n := (n : α)
  floor x := ((⌊x⌋ : ℤ) : α)
  nextPow2 x := (2 : α) ^ (Int.clog 2 x)
  trunc x := if 0 ≤ x then ⌊x⌋ else ⌈x⌉
  roundHE x := if x - ⌊x⌋ < 1 / 2 then ⌊x⌋ else if 1 / 2 < x - ⌊x⌋ then ⌊x⌋ + 1 else if ⌊x⌋ % 2 = 0 then ⌊x⌋ else ⌊x⌋ + 1

@[simp] theorem ofInt_eq (n : Int) : (ofInt n : α) = (n : α) := rfl
@[simp] theorem sfloor_eq (x : α) : (ScalarOps.floor x : α) = ((⌊x⌋ : ℤ) : α) := rfl
@[simp] theorem snextPow2_eq (x : α) : (ScalarOps.nextPow2 x : α) = (2 : α) ^ (Int.clog 2 x) := rfl
theorem strunc_eq (x : α) : (ScalarOps.trunc x : Int) = if 0 ≤ x then ⌊x⌋ else ⌈x⌉ := rfl
theorem sroundHE_eq (x : α) : (ScalarOps.roundHE x : Int) =
    if x - ⌊x⌋ < 1 / 2 then ⌊x⌋ else if 1 / 2 < x - ⌊x⌋ then ⌊x⌋ + 1 else if ⌊x⌋ % 2 = 0 then ⌊x⌋ else ⌊x⌋ + 1 := rfl

theorem trunc_of_nonneg {x : α} (h : 0 ≤ x) : (ScalarOps.trunc x : Int) = ⌊x⌋ := if_pos h

theorem trunc_intCast (n : ℤ) : (ScalarOps.trunc (n : α) : Int) = n := by
  rw [strunc_eq, Int.floor_intCast, Int.ceil_intCast, ite_self]

/-- `round` goes down only from the lower half of `[⌊x⌋, ⌊x⌋ + 1]` and up only from the upper half -/
theorem roundHE_cases (x : α) :
    (ScalarOps.roundHE x : Int) = ⌊x⌋ ∧ x - ⌊x⌋ ≤ 1 / 2 ∨ (ScalarOps.roundHE x : Int) = ⌊x⌋ + 1 ∧ 1 / 2 ≤ x - ⌊x⌋ := by
  rw [sroundHE_eq]
  split_ifs with ha hb hc
  exacts [.inl ⟨rfl, ha.le⟩, .inr ⟨rfl, hb.le⟩, .inl ⟨rfl, not_lt.mp hb⟩, .inr ⟨rfl, not_lt.mp ha⟩]

theorem floor_le_roundHE (x : α) : ⌊x⌋ ≤ (ScalarOps.roundHE x : Int) := by
  rcases roundHE_cases x with ⟨h, -⟩ | ⟨h, -⟩ <;> rw [h]
  exact Int.le_add_one le_rfl

theorem roundHE_le_ceil (x : α) : (ScalarOps.roundHE x : Int) ≤ ⌈x⌉ := by
  rcases roundHE_cases x with ⟨h, -⟩ | ⟨h, hx⟩ <;> rw [h]
  · exact Int.floor_le_ceil x
  · exact Int.add_one_le_iff.mpr (Int.lt_ceil.mpr (sub_pos.mp (one_half_pos.trans_le hx)))

/-- rounding never crosses an integer -/
theorem le_roundHE {n : ℤ} {x : α} (h : (n : α) ≤ x) : n ≤ (ScalarOps.roundHE x : Int) :=
  (Int.le_floor.mpr h).trans (floor_le_roundHE x)

theorem roundHE_le {n : ℤ} {x : α} (h : x ≤ (n : α)) : (ScalarOps.roundHE x : Int) ≤ n :=
  (roundHE_le_ceil x).trans (Int.ceil_le.mpr h)

theorem roundHE_intCast (n : ℤ) : (ScalarOps.roundHE (n : α) : Int) = n :=
  le_antisymm (roundHE_le le_rfl) (le_roundHE le_rfl)

end
