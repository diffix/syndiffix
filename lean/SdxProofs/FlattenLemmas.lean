import SdxProofs.AnonLemmas
import Mathlib.Algebra.Order.BigOperators.Group.List
import Mathlib.Algebra.BigOperators.Group.List.Basic
set_option linter.unusedSectionVars false
/-! Flattening (`_flatten_contributions`) over an ordered field. -/

section
variable {α : Type} [Field α] [LinearOrder α] [IsStrictOrderedRing α] [FloorRing α]

/-- the contributions as scalars -/
def toα (cs : List Nat) : List α := cs.map fun (c : Nat) => ((c : ℤ) : α)
/-- their sum -/
def sumα (cs : List Nat) : α := (toα (α := α) cs).sum

theorem smax_eq_max (a b : α) : smax a b = max a b := by
  unfold smax; split_ifs with h
  · exact (max_eq_right (le_of_lt h)).symm
  · exact (max_eq_left (not_lt.mp h)).symm

theorem flatteningOf_eq_sum (cs : List Nat) (avg : α) :
    flatteningOf cs avg = (cs.map fun (c : Nat) => max (((c : ℤ) : α) - avg) 0).sum := by
  unfold flatteningOf
  show (cs.map fun c => smax (ofInt (Int.ofNat c) - avg) (ofInt 0)).sum = _
  congr 1
  apply List.map_congr_left
  intro c _
  simp only [smax_eq_max, ofInt_eq, Int.cast_zero, Int.ofNat_eq_natCast]

theorem flatteningOf_nonneg (cs : List Nat) (avg : α) : 0 ≤ flatteningOf cs avg := by
  rw [flatteningOf_eq_sum]
  exact List.sum_nonneg fun x hx => by
    obtain ⟨c, _, rfl⟩ := List.mem_map.mp hx
    exact le_max_right _ _

theorem flatteningOf_append (a b : List Nat) (avg : α) :
    flatteningOf (a ++ b) avg = flatteningOf a avg + flatteningOf b avg := by
  rw [flatteningOf_eq_sum, flatteningOf_eq_sum, flatteningOf_eq_sum, List.map_append, List.sum_append]

/-- when every contribution is at least the average, the flattening removes exactly the excess -/
theorem flatteningOf_of_ge (cs : List Nat) (avg : α) (h : ∀ c ∈ cs, avg ≤ ((c : ℤ) : α)) :
    flatteningOf cs avg = sumα cs - (cs.length : α) * avg := by
  -- move `|cs| · avg = Σ avg` to the left: term by term `max (c - avg) 0 + avg = c`
  rw [flatteningOf_eq_sum, eq_sub_iff_add_eq, ← nsmul_eq_mul, ← List.sum_replicate, ← List.map_const', ← List.sum_map_add]
  exact congrArg List.sum (List.map_congr_left fun c hc => by rw [max_eq_left (sub_nonneg.mpr (h c hc)), sub_add_cancel])

theorem sumα_append (a b : List Nat) : sumα (α := α) (a ++ b) = sumα a + sumα b := by
  rw [sumα, toα, List.map_append, List.sum_append]; rfl

theorem sumα_ge (top : List Nat) (lo : α) (hlo : ∀ b ∈ top, lo ≤ ((b : ℤ) : α)) : (top.length : α) * lo ≤ sumα top := by
  have := List.card_nsmul_le_sum (toα top) lo (List.forall_mem_map.mpr hlo)
  rwa [nsmul_eq_mul, toα, List.length_map] at this

theorem sumα_le (top : List Nat) (hi : α) (hhi : ∀ b ∈ top, ((b : ℤ) : α) ≤ hi) : sumα top ≤ (top.length : α) * hi := by
  have := List.sum_le_card_nsmul (toα top) hi (List.forall_mem_map.mpr hhi)
  rwa [nsmul_eq_mul, toα, List.length_map] at this

/-- the average of a non-empty group lies between any lower and upper bound of its members -/
theorem avg_bounds (top : List Nat) (lo hi : α) (hne : top ≠ [])
    (hlo : ∀ b ∈ top, lo ≤ ((b : ℤ) : α)) (hhi : ∀ b ∈ top, ((b : ℤ) : α) ≤ hi) :
    lo ≤ sumα top / (top.length : α) ∧ sumα top / (top.length : α) ≤ hi := by
  have hlen : (0 : α) < (top.length : α) := Nat.cast_pos.mpr (List.length_pos_of_ne_nil hne)
  rw [le_div_iff₀ hlen, div_le_iff₀ hlen, mul_comm lo, mul_comm hi]
  exact ⟨sumα_ge top lo hlo, sumα_le top hi hhi⟩

end
