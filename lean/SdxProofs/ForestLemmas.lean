import SdxProofs.PushDown
import SdxProofs.SnapLemmas
import SdxProofs.MonadLemmas
set_option linter.unusedSectionVars false
set_option linter.unusedVariables false
/-! `Forest.__init__` and `Forest.get_tree` produce trees that satisfy the invariants. -/

theorem forall₂_range {γ : Type} {R : Nat → γ → Prop} {n : Nat} {l : List γ} (h : List.Forall₂ R (List.range n) l) :
    l.length = n ∧ ∀ (j : Nat) (hj : j < l.length), R j l[j] := by
  have hl : l.length = n := by simpa using h.length_eq.symm
  refine ⟨hl, fun j hj => ?_⟩
  simpa using (List.forall₂_iff_get.mp h).2 j (by simpa [hl] using hj) hj

section
variable {α : Type} [Add α] [Sub α] [Mul α] [Div α] [LT α] [LE α] [BEq α]
  [DecidableLT α] [DecidableLE α] [ScalarOps α] [Inhabited α]

/-- what a successful `Forest.__init__` returns, field by field -/
theorem forest_init_ok (E : Env α) (inp : ForestIn α) (F : Forest α) (h : Forest.init E inp = .ok F) :
    F.names = inp.names ∧
    F.nullMaps = (List.range inp.names.length).map (fun j => nullMapping (columnHull inp.raw j)) ∧
    F.ctx = { data := forestData inp.raw inp.names.length F.nullMaps, pids := inp.pids, ap := inp.ap, bp := inp.bp, kind := inp.kind } ∧
    List.Forall₂ (fun j s => snapFuel 64 ((columnHull inp.raw j).expand (nullMapping (columnHull inp.raw j))) = some s)
      (List.range inp.names.length) F.rootSnapped0 ∧
    List.Forall₂ (fun j t => tree1 E F.ctx inp.names inp.bp.rowFraction F.rootSnapped0 j = some t)
      (List.range inp.names.length) F.trees1 ∧
    F.snapped = F.trees1.map (fun t => t.data.snapped.getD 0 default) := by
  unfold Forest.init at h
  simp only [bind, Except.bind] at h
  split at h
  · cases h
  · rename_i snapped0 hs0
    split at h
    · cases h
    · rename_i trees1 ht1
      cases h
      refine ⟨rfl, by simp [List.map_map], rfl, ?_, ?_, rfl⟩
      · have := mapM_except_ok _ _ _ hs0
        simp only [List.zipWith_map_right, List.zipWith_self, List.forall₂_map_left_iff] at this
        exact this.imp fun {j s} hx => by split at hx <;> simp_all [pure, Except.pure]
      · exact (mapM_except_ok _ _ _ ht1).imp fun {j t} hx => by split at hx <;> simp_all [pure, Except.pure]

/-- what `Forest.__init__` copies from its arguments -/
theorem forest_init_ctx (E : Env α) (inp : ForestIn α) (F : Forest α) (h : Forest.init E inp = .ok F) :
    F.ctx.pids = inp.pids ∧ F.ctx.ap = inp.ap ∧ F.ctx.kind = inp.kind ∧ F.ctx.bp = inp.bp := by
  rw [(forest_init_ok E inp F h).2.2.1]
  exact ⟨rfl, rfl, rfl, rfl⟩

end

/-- `Forest.__init__` keeps the column names -/
theorem forest_init_names {α : Type} [Add α] [Sub α] [Mul α] [Div α] [LT α] [LE α] [BEq α]
    [DecidableLT α] [DecidableLE α] [ScalarOps α] [Inhabited α] (E : Env α) (inp : ForestIn α) (F : Forest α)
    (h : Forest.init E inp = .ok F) : F.names = inp.names :=
  (forest_init_ok E inp F h).1

section
variable {α : Type} [Field α] [LinearOrder α] [IsStrictOrderedRing α] [FloorRing α] [Inhabited α]

/-- whatever `snap_interval` returns is a proper range -/
theorem snapFuel_proper : ∀ (n : Nat) (i s : Ival α), snapFuel n i = some s → s.lo < s.hi := by
  intro n
  induction n with
  | zero => intro i s h; simp [snapFuel] at h
  | succ n ih =>
    intro i s h
    rw [snapFuel] at h
    split at h
    · exact ih _ _ h
    · rename_i r hr
      cases h
      rw [snapStep_eq] at hr
      split_ifs at hr
      cases hr
      exact lt_add_of_pos_right _ (snapSize_pos i)

/-- the trees `Forest.__init__` keeps for single columns -/
theorem forest_init_trees1 (E : Env α) (inp : ForestIn α) (F : Forest α) (h : Forest.init E inp = .ok F) :
    F.trees1.length = inp.names.length ∧ F.rootSnapped0.length = inp.names.length ∧
    (∀ iv ∈ F.rootSnapped0, iv.lo < iv.hi) ∧ F.ctx.data.size = inp.raw.size ∧
    F.snapped = F.trees1.map (fun t => t.data.snapped.getD 0 default) ∧
    ∀ j (hj : j < F.trees1.length),
      tree1 E F.ctx inp.names inp.bp.rowFraction F.rootSnapped0 j = some (F.trees1[j]) := by
  obtain ⟨_, _, hctx, hs0, ht1, hsn⟩ := forest_init_ok E inp F h
  obtain ⟨hl1, ht1⟩ := forall₂_range ht1
  refine ⟨hl1, (forall₂_range hs0).1, forall₂_right _ _ _ (hs0.imp fun _ _ hx => snapFuel_proper _ _ _ hx), ?_, hsn, ht1⟩
  rw [hctx]; simp [forestData]

end

theorem combos_gt : ∀ (l : List Nat) (k : Nat), l.length < k → combos k l = [] := by
  intro l
  induction l with
  | nil => intro k hk; cases k with | zero => simp at hk | succ k => rfl
  | cons x xs ih =>
    intro k hk
    cases k with
    | zero => simp at hk
    | succ k =>
      simp only [List.length_cons] at hk
      simp [combos, ih k (by omega), ih (k + 1) (by omega)]

theorem combos_all : ∀ (l : List Nat), combos l.length l = [l] := by
  intro l
  induction l with
  | nil => rfl
  | cons x xs ih => simp [combos, ih, combos_gt xs (xs.length + 1) (by omega)]

/-- `itertools.combinations(l, len(l)-1)`: drop the last element, then the last but one, …, then the first -/
theorem combos_pred : ∀ (l : List Nat) (n : Nat), l.length = n + 1 →
    combos n l = (List.range (n + 1)).map (fun i => l.eraseIdx (n - i)) := by
  intro l
  induction l with
  | nil => intro n h; simp at h
  | cons x xs ih =>
    intro n h
    simp only [List.length_cons, Nat.add_right_cancel_iff] at h
    cases n with
    | zero =>
      have : xs = [] := List.length_eq_zero_iff.mp h
      subst this
      simp [combos]
    | succ n =>
      rw [combos, ih n h, ← h, combos_all]
      rw [List.range_succ, List.map_append]
      simp only [List.map_map, List.map_cons, List.map_nil, Nat.sub_self, List.eraseIdx_cons_zero]
      congr 1
      apply List.map_congr_left
      intro i hi
      have hi' : i < xs.length := List.mem_range.mp hi
      simp only [Function.comp]
      have : xs.length - i = (n - i) + 1 := by omega
      rw [this, List.eraseIdx_cons_succ]

theorem genCombinations_pred (k : Nat) (hk : 2 ≤ k) :
    genCombinations (k - 1) k = (List.range k).map (fun i => (List.range k).eraseIdx (k - 1 - i)) := by
  unfold genCombinations
  have : ¬ (k - 1 = 0) := by omega
  rw [if_neg this]
  have := combos_pred (List.range k) (k - 1) (by simp; omega)
  rw [this]
  have e : k - 1 + 1 = k := by omega
  rw [e]

theorem range_map_getD (comb : List Nat) : (List.range comb.length).map (fun i => comb.getD i 0) = comb := by
  apply List.ext_getElem
  · simp
  · intro i h1 h2
    simp only [List.length_map, List.length_range] at h1
    simp [List.getD_eq_getElem?_getD, h1]

section
variable {α : Type} [Field α] [LinearOrder α] [IsStrictOrderedRing α] [FloorRing α] [Inhabited α]

/-- `Forest.get_tree` of a single column hands out the tree kept by `Forest.__init__` -/
theorem Forest.tree?_single {E : Env α} {F : Forest α} {fuel j : Nat} {t : Node α} (h : F.tree? E fuel [j] = some t) :
    ∃ hj : j < F.trees1.length, t = F.trees1[j] := by
  cases fuel with
  | zero => simp [Forest.tree?] at h
  | succ fuel =>
    rw [Forest.tree?] at h
    obtain ⟨hj, rfl⟩ := List.getElem?_eq_some_iff.mp h
    exact ⟨hj, rfl⟩

/-- Induction over the trees a forest hands out: a tree is one of the single-column trees, or is built by `add_row`
from a root leaf whose sub-nodes are the trees of the combination with one column left out — sub-tree `i` lacks
column `len-1-i` (`generate_combinations` order). -/
theorem forest_tree_induct (E : Env α) (F : Forest α) (P : List Nat → Node α → Prop)
    (single : ∀ (j : Nat) (hj : j < F.trees1.length), P [j] (F.trees1[j]))
    (multi : ∀ (fuel : Nat) (comb : List Nat) (subTrees : List (Node α)) (t : Node α), comb.length ≠ 1 →
      subTrees.length = comb.length →
      (∀ (i : Nat) (hi : i < subTrees.length),
        F.tree? E fuel (comb.eraseIdx (comb.length - 1 - i)) = some subTrees[i] ∧
        P (comb.eraseIdx (comb.length - 1 - i)) subTrees[i]) →
      buildRows E F.ctx 0 (mkLeaf E F.ctx comb [] (treeBaseSeed E F.names comb) (subTrees.map some)
        (comb.map fun j => F.snapped.getD j default) 0) = some t → P comb t) :
    ∀ (fuel : Nat) (comb : List Nat) (t : Node α), F.tree? E fuel comb = some t → P comb t := by
  intro fuel
  induction fuel with
  | zero => intro comb t h; simp [Forest.tree?] at h
  | succ fuel IH =>
    intro comb t h
    by_cases h1 : ∃ j, comb = [j]
    · obtain ⟨j, rfl⟩ := h1
      obtain ⟨hj, rfl⟩ := Forest.tree?_single h
      exact single j hj
    · have hk1 : comb.length ≠ 1 := fun hl => h1 (List.length_eq_one_iff.mp hl)
      rw [Forest.tree?] at h
      · split at h
        · cases h
        · rename_i subTrees hm
          have hall := mapM_option_some _ _ _ hm
          rcases Nat.lt_or_ge comb.length 2 with h0 | hk2
          · obtain rfl : comb = [] := List.length_eq_zero_iff.mp (by omega)
            cases hall
            exact multi fuel [] [] t hk1 rfl (fun i hi => absurd hi (by simp)) h
          · rw [genCombinations_pred comb.length hk2] at hall
            obtain ⟨hlenS, hall⟩ := forall₂_range (List.forall₂_map_left_iff.mp hall)
            refine multi fuel comb subTrees t hk1 hlenS (fun i hi => ?_) h
            have := hall i hi
            rw [← List.eraseIdx_map, range_map_getD] at this
            exact ⟨this, IH _ _ this⟩
      · intro j hj; exact h1 ⟨j, hj⟩

end
