import SdxProofs.MonadLemmas
import SdxProofs.BucketLemmas
import SdxProofs.TreeInv
import SdxProofs.ForestLemmas
set_option linter.unusedSectionVars false
set_option linter.unusedVariables false
/-!
# The harvest: aliasing, frame and conservation

Cells are only ever appended; ranges and owner of a cell never change; the count of a cell is changed only by the
rescaling step of the branch that (transitively) contains the cell's owner, or of a lower-dimensional tree.
-/

/-- the recursion of the four harvest functions on the budget: leaf rests on refine at the same budget; node, refine and
branch rest on the others one budget down -/
theorem harvest_fuel_induction {N R B L : Nat → Prop} (n0 : N 0) (r0 : R 0) (b0 : B 0) (leaf : ∀ f, R f → L f)
    (node : ∀ f, L f → B f → N (f + 1)) (refine : ∀ f, N f → R (f + 1)) (branch : ∀ f, N f → R f → B (f + 1)) :
    ∀ f, N f ∧ R f ∧ B f ∧ L f
  | 0 => ⟨n0, r0, b0, leaf 0 r0⟩
  | f + 1 =>
    have ⟨hN, hR, hB, hL⟩ := harvest_fuel_induction n0 r0 b0 leaf node refine branch f
    ⟨node f hL hB, refine f hN, branch f hN hR, leaf _ (refine f hN)⟩

section
variable {α : Type}

/-- `HM.randint` as a function of the state -/
theorem HM.randint_run (hi : Int) (s : HState α) :
    (HM.randint (α := α) hi).run s =
      if hi < 0 then .error "value" else
      match s.stream with
      | [] => .error "unrecorded"
      | v :: rest => if (v : Int) > hi then .error "stream" else .ok (v, { s with stream := rest, drawn := s.drawn + 1 }) := by
  obtain ⟨cells, cache, stream, drawn⟩ := s
  unfold HM.randint
  split_ifs with h1
  · rfl
  · cases stream with
    | nil => rfl
    | cons v rest =>
      show (if (v : Int) > hi then _ else _ : HM α Nat).run _ = if (v : Int) > hi then _ else _
      split_ifs <;> rfl

end

section
variable {α : Type} [Field α] [LinearOrder α] [IsStrictOrderedRing α] [FloorRing α] [Inhabited α]

/-- `s'` extends `s`: cells only appended; ranges and owners of existing cells unchanged; counts unchanged for
cells owned by trees of at least `L` columns -/
def Ext (L : Nat) (s s' : HState α) : Prop :=
  s.cells.size ≤ s'.cells.size ∧
  ∀ id < s.cells.size, s'.cells[id]!.ivs = s.cells[id]!.ivs ∧ s'.cells[id]!.owner = s.cells[id]!.owner ∧
    (L ≤ (s.cells[id]!.owner.1).length → s'.cells[id]!.count = s.cells[id]!.count)

theorem Ext.refl (L : Nat) (s : HState α) : Ext L s s := ⟨le_refl _, fun _ _ => ⟨rfl, rfl, fun _ => rfl⟩⟩

theorem Ext.trans {L : Nat} {s1 s2 s3 : HState α} (h1 : Ext L s1 s2) (h2 : Ext L s2 s3) : Ext L s1 s3 := by
  refine ⟨le_trans h1.1 h2.1, fun id hid => ?_⟩
  obtain ⟨a1, a2, a3⟩ := h1.2 id hid
  obtain ⟨b1, b2, b3⟩ := h2.2 id (lt_of_lt_of_le hid h1.1)
  refine ⟨b1.trans a1, b2.trans a2, fun hl => ?_⟩
  rw [b3 (by rw [a2]; exact hl), a3 hl]

theorem Ext.mono {L L' : Nat} {s s' : HState α} (h : Ext L s s') (hl : L ≤ L') : Ext L' s s' :=
  ⟨h.1, fun id hid => ⟨(h.2 id hid).1, (h.2 id hid).2.1, fun hh => (h.2 id hid).2.2 (le_trans hl hh)⟩⟩

/-- the cell was created by the node with key `K` or by a node below it -/
def OwnerOK (K o : NodeKey) : Prop := o.1 = K.1 ∧ K.2 <+: o.2

/-- a node whose range may be released: a branch (it was split, so it passed the filter then and entities only
accumulate), or a leaf that passes the filter now -/
def Releasable (E : Env α) (c : FCtx α) (m : Node α) : Prop :=
  m.isLeaf = true → m.overThreshold E c c.ap.supp.lt = true

/-- one range of a cell is the released range of a releasable reachable node, for the same column -/
def RangeOK (E : Env α) (c : FCtx α) (root : Node α) (col : Nat) (iv : Ival α) : Prop :=
  ∃ m j, Reach root m ∧ Releasable E c m ∧ j < m.bucketIntervals.length ∧ j < m.data.comb.length ∧
    iv = m.bucketIntervals.getD j default ∧ m.data.comb.getD j 0 = col

/-- a cell: as many ranges as its owner has columns, each range accounted for -/
def CellOK (E : Env α) (c : FCtx α) (root : Node α) (ivs : List (Ival α)) (owner : NodeKey) : Prop :=
  ivs.length = owner.1.length ∧ ∀ pos < ivs.length, RangeOK E c root (owner.1.getD pos 0) (ivs.getD pos default)

/-- every position of a node's own released ranges is accounted for by the node itself -/
theorem CellOK.self (E : Env α) (c : FCtx α) (root n : Node α) (hr : Reach root n) (hrel : Releasable E c n)
    (hlen : n.bucketIntervals.length = n.data.comb.length) : CellOK E c root n.bucketIntervals (nodeKey n) := by
  refine ⟨hlen, fun pos hpos => ⟨n, pos, hr, hrel, hpos, by rw [← hlen]; exact hpos, rfl, rfl⟩⟩

/-- a cell is accounted for when its ranges are, column by column -/
theorem cellOK_iff (E : Env α) (c : FCtx α) (root : Node α) (ivs : List (Ival α)) (o : NodeKey) :
    CellOK E c root ivs o ↔ List.Forall₂ (RangeOK E c root) o.1 ivs := by
  rw [List.forall₂_iff_get, CellOK, eq_comm]
  refine and_congr_right fun hl => ⟨fun h i h1 h2 => ?_, fun h pos hp => ?_⟩
  · simpa [h1, h2] using h i h2
  · simpa [hp, hl ▸ hp] using h pos (hl ▸ hp) hp


/-- a list of cell ids a node with key `K` may return -/
def GoodIds (K : NodeKey) (s : HState α) (ids : List Nat) : Prop :=
  ids.Nodup ∧ ∀ id ∈ ids, id < s.cells.size ∧ OwnerOK K (s.cells[id]!.owner)

theorem GoodIds.mono {K : NodeKey} {L : Nat} {s s' : HState α} {ids : List Nat} (h : GoodIds K s ids) (he : Ext L s s') :
    GoodIds K s' ids :=
  ⟨h.1, fun id hid => ⟨lt_of_lt_of_le (h.2 id hid).1 he.1, by rw [(he.2 id (h.2 id hid).1).2.1]; exact (h.2 id hid).2⟩⟩

/-- the state invariant: counts are never negative; cached lists are good for their key -/
def GInv (E : Env α) (c : FCtx α) (root : Node α) (s : HState α) : Prop :=
  (∀ id < s.cells.size, 0 ≤ s.cells[id]!.count) ∧ (∀ p ∈ s.cache, GoodIds p.1 s p.2) ∧
  (∀ id < s.cells.size, CellOK E c root s.cells[id]!.ivs s.cells[id]!.owner)

theorem newCell_run (o : NodeKey) (ivs : List (Ival α)) (cnt : Int) (s : HState α) :
    (HM.newCell o ivs cnt).run s = .ok (s.cells.size, { s with cells := s.cells.push ⟨ivs, cnt, o⟩ }) := rfl

theorem liftEx_run {β : Type} (e : Except String β) (s s' : HState α) (v : β) (h : (liftEx (α := α) e).run s = .ok (v, s')) :
    e = .ok v ∧ s = s' := by
  cases e with
  | error m => cases h
  | ok w => cases h; exact ⟨rfl, rfl⟩

theorem getElem!_push_size (cells : Array (BCell α)) (b : BCell α) : (cells.push b)[cells.size]! = b := by
  simp [Array.getElem!_eq_getD, Array.getD]

theorem getElem!_push_lt (cells : Array (BCell α)) (b : BCell α) (id : Nat) (h : id < cells.size) :
    (cells.push b)[id]! = cells[id]! := by
  simp [Array.getElem!_eq_getD, Array.getD, Array.getElem_push, h, Nat.lt_succ_of_lt h]

/-- cells only appended, cache as it was: a frame step for every tree, and the invariant stays if the new cells are sound -/
theorem appended_spec (E : Env α) (c : FCtx α) (root : Node α) (L : Nat) (s s' : HState α) (hG : GInv E c root s)
    (hcache : s'.cache = s.cache) (hold : ∀ id < s.cells.size, s'.cells[id]! = s.cells[id]!) (hsz : s.cells.size ≤ s'.cells.size)
    (hnew : ∀ id, s.cells.size ≤ id → id < s'.cells.size →
      0 ≤ s'.cells[id]!.count ∧ CellOK E c root s'.cells[id]!.ivs s'.cells[id]!.owner) :
    Ext L s s' ∧ GInv E c root s' := by
  have hext : ∀ L, Ext L s s' := fun L => ⟨hsz, fun id hid => by rw [hold id hid]; exact ⟨rfl, rfl, fun _ => rfl⟩⟩
  refine ⟨hext L, fun id hid => ?_, fun p hp => (hG.2.1 p (hcache ▸ hp)).mono (hext 0), fun id hid => ?_⟩
  · by_cases h1 : id < s.cells.size
    · rw [hold id h1]; exact hG.1 id h1
    · exact (hnew id (by omega) hid).1
  · by_cases h1 : id < s.cells.size
    · rw [hold id h1]; exact hG.2.2 id h1
    · exact (hnew id (by omega) hid).2


/-- the released count of a node is at least `low_threshold` -/
theorem noisyCount_ge (E : Env α) (c : FCtx α) (n : Node α) (N : Int) (h : n.noisyCount E c = .ok N) : c.ap.supp.lt ≤ N := by
  unfold Node.noisyCount at h
  simp only at h
  split at h
  · cases h
  · simp only [Except.ok.injEq] at h
    rw [← h]; exact le_max_right _ _

theorem OwnerOK.refl (K : NodeKey) : OwnerOK K K := ⟨rfl, List.prefix_refl _⟩


/-- a block that appends one cell and returns its id -/
theorem single_spec (E : Env α) (c : FCtx α) (root : Node α) (L : Nat) (K : NodeKey) (ivs : List (Ival α)) (cnt : Int) (hc : 0 ≤ cnt)
    (hok : CellOK E c root ivs K) (s : HState α) (ids : List Nat) (s' : HState α) (hG : GInv E c root s)
    (h : (HM.newCell K ivs cnt >>= fun id => pure [id]).run s = .ok (ids, s')) :
    Ext L s s' ∧ GInv E c root s' ∧ GoodIds K s' ids ∧ (∀ id ∈ ids, s.cells.size ≤ id) ∧ sumCounts s'.cells ids = cnt := by
  cases h
  obtain ⟨e1, e2⟩ := appended_spec E c root L s { s with cells := s.cells.push ⟨ivs, cnt, K⟩ } hG rfl
    (fun id hid => getElem!_push_lt _ _ _ hid) (by simp) (fun id h1 h2 => by
      obtain rfl : id = s.cells.size := by simp only [Array.size_push] at h2; omega
      simp only [getElem!_push_size]; exact ⟨hc, hok⟩)
  exact ⟨e1, e2,
    ⟨by simp, fun id hid => by simp only [List.mem_singleton.mp hid, Array.size_push, getElem!_push_size]; exact ⟨by omega, OwnerOK.refl K⟩⟩,
    fun id hid => by rw [List.mem_singleton.mp hid], by simp [sumCounts]⟩


/-- what every harvesting step guarantees about the state and the ids it returns for node `n` -/
def Spec (E : Env α) (c : FCtx α) (root n : Node α) (s : HState α) (ids : List Nat) (s' : HState α) : Prop :=
  Ext (n.data.comb.length + 1) s s' ∧ GInv E c root s' ∧ GoodIds (nodeKey n) s' ids

/-- conservation: nothing released — and then the node fails the low-count filter on the rows it holds —, or the counts
add up to the node's released count or one less -/
def Cons (E : Env α) (c : FCtx α) (n : Node α) (ids : List Nat) (s' : HState α) : Prop :=
  (ids = [] ∧ n.overThreshold E c c.ap.supp.lt = false) ∨ Releasable E c n ∧ ∃ N, n.noisyCount E c = .ok N ∧ (sumCounts s'.cells ids = N ∨ sumCounts s'.cells ids = N - 1)

/-- what `_refine_buckets` guarantees: fresh cells only, adding up to exactly the requested count -/
def RefineSpec (E : Env α) (c : FCtx α) (root n : Node α) (count : Int) (s : HState α) (ids : List Nat) (s' : HState α) : Prop :=
  Ext n.data.comb.length s s' ∧ GInv E c root s' ∧ GoodIds (nodeKey n) s' ids ∧ (∀ id ∈ ids, s.cells.size ≤ id) ∧
    sumCounts s'.cells ids = count

def NodeStmt (E : Env α) (c : FCtx α) (root : Node α) (fuel : Nat) : Prop :=
  ∀ (n : Node α) (s : HState α) (ids : List Nat) (s' : HState α), Shape n → Reach root n → GInv E c root s →
    (harvestNode E c fuel n).run s = .ok (ids, s') →
    Spec E c root n s ids s' ∧ (s.cache.find? (fun p => p.1 == nodeKey n) = none → Cons E c n ids s')

def RefineStmt (E : Env α) (c : FCtx α) (root : Node α) (fuel : Nat) : Prop :=
  ∀ (n : Node α) (count : Int) (s : HState α) (ids : List Nat) (s' : HState α), Shape n → Reach root n →
    Releasable E c n → GInv E c root s → 0 ≤ count →
    (refineBuckets E c fuel n count).run s = .ok (ids, s') → RefineSpec E c root n count s ids s'

def LeafStmt (E : Env α) (c : FCtx α) (root : Node α) (fuel : Nat) : Prop :=
  ∀ (n : Node α) (s : HState α) (ids : List Nat) (s' : HState α), Shape n → Reach root n → GInv E c root s →
    (harvestLeaf E c fuel n).run s = .ok (ids, s') → Spec E c root n s ids s' ∧ Cons E c n ids s'

def BranchStmt (E : Env α) (c : FCtx α) (root : Node α) (fuel : Nat) : Prop :=
  ∀ (d : NodeData α) (subs : List (Option (Node α))) (ch : List (Nat × Node α)) (s : HState α) (ids : List Nat)
    (s' : HState α), Shape (.branch d subs ch) → Reach root (.branch d subs ch) → GInv E c root s →
    (harvestBranch E c fuel (.branch d subs ch) ch).run s = .ok (ids, s') →
    Spec E c root (.branch d subs ch) s ids s' ∧ Cons E c (.branch d subs ch) ids s'

theorem Spec.nil (E : Env α) (c : FCtx α) (root n : Node α) (s : HState α) (h : GInv E c root s) : Spec E c root n s [] s :=
  ⟨Ext.refl _ _, h, ⟨List.nodup_nil, fun _ h => by simp at h⟩⟩

theorem bucketIntervals_length {n : Node α} (h : Shape n) : n.bucketIntervals.length = n.data.comb.length := by
  obtain ⟨h1, h2, _⟩ := h.facts.1
  simp [Node.bucketIntervals, h1, h2]

/-- `_harvest_leaf`, given `_refine_buckets` -/
theorem leaf_of_refine (E : Env α) (c : FCtx α) (hlt : 0 ≤ c.ap.supp.lt) (root : Node α) (fuel : Nat)
    (hR : RefineStmt E c root fuel) : LeafStmt E c root fuel := by
  intro n s ids s' hsh hreach hG h0
  unfold harvestLeaf at h0
  by_cases hover : n.overThreshold E c c.ap.supp.lt = true
  · rw [if_pos hover] at h0
    obtain ⟨N, s1, h1, h⟩ := StateT_bind_ok h0
    clear h0
    obtain ⟨hN, rfl⟩ := liftEx_run _ _ _ _ h1
    have hN0 : 0 ≤ N := le_trans hlt (noisyCount_ge E c n N hN)
    have hrel : Releasable E c n := fun _ => hover
    have fin : RefineSpec E c root n N s ids s' → Spec E c root n s ids s' ∧ Cons E c n ids s' :=
      fun ⟨e1, e2, e3, _, hsum⟩ => ⟨⟨e1.mono (Nat.le_succ _), e2, e3⟩, Or.inr ⟨hrel, N, hN, Or.inl hsum⟩⟩
    split_ifs at h
    · exact fin (single_spec E c root _ _ _ N hN0 (CellOK.self E c root n hreach hrel (bucketIntervals_length hsh)) s ids s' hG h)
    · exact fin (hR n N s ids s' hsh hreach hrel hG hN0 h)
  · rw [if_neg hover] at h0
    obtain ⟨rfl, rfl⟩ := StateT_pure_ok h0
    exact ⟨Spec.nil E c root n s hG, Or.inl ⟨rfl, by simpa using hover⟩⟩


theorem randint_run (hi : Int) (s s' : HState α) (v : Nat) (h : (HM.randint (α := α) hi).run s = .ok (v, s')) :
    s'.cells = s.cells ∧ s'.cache = s.cache := by
  rw [HM.randint_run] at h
  split_ifs at h
  split at h
  · cases h
  · split_ifs at h
    cases h; exact ⟨rfl, rfl⟩

theorem cell_run (id : Nat) (s : HState α) : (HM.cell (α := α) id).run s = .ok (s.cells[id]!, s) := rfl

/-- reading cells never fails and does not change the state -/
theorem mapM_cell_run (ids : List Nat) (s : HState α) :
    (ids.mapM (HM.cell (α := α))).run s = .ok (ids.map (fun id => s.cells[id]!), s) := by
  induction ids with
  | nil => rfl
  | cons a l ih =>
    rw [List.mapM_cons, StateT.run_bind, cell_run]
    show (do let p ← (l.mapM HM.cell).run s; _) = _
    rw [ih]; rfl

theorem mapM_mapM_cell_run (idss : List (List Nat)) (s : HState α) :
    (idss.mapM (fun (ids : List Nat) => ids.mapM (HM.cell (α := α)))).run s =
      .ok (idss.map (fun ids => ids.map (fun id => s.cells[id]!)), s) := by
  induction idss with
  | nil => rfl
  | cons a l ih =>
    rw [List.mapM_cons, StateT.run_bind, mapM_cell_run]
    show (do let p ← (l.mapM (fun (ids : List Nat) => ids.mapM (HM.cell (α := α)))).run s; _) = _
    rw [ih]; rfl

theorem lookupRun_mem {β : Type} : ∀ (l : List (β × Int)) (i : Nat) (x : β), lookupRun l i = some x → ∃ c, (x, c) ∈ l := by
  intro l
  induction l with
  | nil => intro i x h; simp [lookupRun] at h
  | cons p rest ih =>
    intro i x h
    obtain ⟨y, c⟩ := p
    unfold lookupRun at h
    split_ifs at h
    · simp only [Option.some.injEq] at h; subst h; exact ⟨c, by simp⟩
    · obtain ⟨c', hc'⟩ := ih _ x h
      exact ⟨c', by simp [hc']⟩

/-- a run of allocations: every step appends exactly one cell of count 1 owned by `K` and returns its id -/
theorem mapM_alloc {β : Type} (f : β → HM α Nat) (K : NodeKey) (P : List (Ival α) → Prop)
    (hstep : ∀ b s id s', (f b).run s = .ok (id, s') → id = s.cells.size ∧ s'.cache = s.cache ∧
      ∃ ivs, P ivs ∧ s'.cells = s.cells.push ⟨ivs, 1, K⟩) :
    ∀ (l : List β) (s : HState α) (ids : List Nat) (s' : HState α), (l.mapM f).run s = .ok (ids, s') →
      ids = List.range' s.cells.size l.length ∧ s'.cells.size = s.cells.size + l.length ∧ s'.cache = s.cache ∧
      (∀ id < s.cells.size, s'.cells[id]! = s.cells[id]!) ∧
      (∀ id, s.cells.size ≤ id → id < s'.cells.size → s'.cells[id]!.count = 1 ∧ s'.cells[id]!.owner = K ∧
        P s'.cells[id]!.ivs) := by
  intro l
  induction l with
  | nil =>
    intro s ids s' h
    simp only [List.mapM_nil] at h
    obtain ⟨rfl, rfl⟩ := StateT_pure_ok h
    exact ⟨rfl, rfl, rfl, fun _ _ => rfl, fun id h1 h2 => by omega⟩
  | cons a l ih =>
    intro s ids s' h
    rw [List.mapM_cons] at h
    obtain ⟨y, s1, h1, h2⟩ := StateT_bind_ok h
    obtain ⟨ys, s2, h3, h4⟩ := StateT_bind_ok h2
    obtain ⟨rfl, rfl⟩ := StateT_pure_ok h4
    obtain ⟨rfl, hc1, ivs, hP, hcells⟩ := hstep a s y s1 h1
    obtain ⟨rfl, hsz, hc2, hold, hnew⟩ := ih s1 ys s2 h3
    have hs1 : s1.cells.size = s.cells.size + 1 := by rw [hcells]; simp
    refine ⟨?_, by rw [hsz, hs1]; simp; omega, hc2.trans hc1, ?_, ?_⟩
    · rw [hs1]; simp [List.range'_succ]
    · intro id hid
      rw [hold id (by rw [hs1]; omega), hcells, getElem!_push_lt _ _ _ hid]
    · intro id h1' h2'
      by_cases he : id = s.cells.size
      · subst he
        rw [hold _ (by rw [hs1]; omega), hcells, getElem!_push_size]
        exact ⟨rfl, rfl, hP⟩
      · exact hnew id (by rw [hs1]; omega) h2'

theorem sum_map_const_one (l : List Nat) (g : Nat → Int) (h : ∀ x ∈ l, g x = 1) : (l.map g).sum = l.length := by
  induction l with
  | nil => rfl
  | cons a l ih =>
    simp only [List.map_cons, List.sum_cons, List.length_cons]
    rw [h a (by simp), ih (fun x hx => h x (by simp [hx]))]
    push_cast; ring

/-- `_match_subintervals`: `count` fresh cells of count 1 owned by the refined node -/
theorem matchSub_spec (E : Env α) (c : FCtx α) (root : Node α) (L : Nat) (K : NodeKey) (count : Int) (hc : 0 ≤ count)
    (perDim : List (List (Ival α × Int))) (perSub : List (List (List (Ival α) × Int)))
    (hcell : ∀ (mc : Nat) (sivs : List (Ival α)) (div : Ival α),
      (∃ cnt, (sivs, cnt) ∈ perSub.getD (mc % perDim.length) []) →
      (∃ cnt, (div, cnt) ∈ perDim.getD (perDim.length - mc % perDim.length - 1) []) →
      CellOK E c root (sivs.take (perDim.length - mc % perDim.length - 1) ++ [div] ++
        sivs.drop (perDim.length - mc % perDim.length - 1)) K)
    (s : HState α) (ids : List Nat) (s' : HState α) (hG : GInv E c root s)
    (h : (matchSubintervals K count perDim perSub).run s = .ok (ids, s')) :
    Ext L s s' ∧ GInv E c root s' ∧ GoodIds K s' ids ∧ (∀ id ∈ ids, s.cells.size ≤ id) ∧ sumCounts s'.cells ids = count := by
  unfold matchSubintervals at h
  obtain ⟨hids, hsz, hcache, hold, hnew⟩ := mapM_alloc _ K (fun ivs => CellOK E c root ivs K) (by
    intro b s id s' hr
    obtain ⟨a, s1, h1, hr⟩ := StateT_bind_ok hr
    obtain ⟨b', s2, h2, hr⟩ := StateT_bind_ok hr
    obtain ⟨c1, c2⟩ := randint_run _ _ _ _ h1
    obtain ⟨c3, c4⟩ := randint_run _ _ _ _ h2
    split at hr
    · rename_i sivs div hl1 hl2
      rw [newCell_run] at hr
      simp only [Except.ok.injEq, Prod.mk.injEq] at hr
      obtain ⟨rfl, rfl⟩ := hr
      exact ⟨by rw [c3, c1], by simp [c4, c2], _, hcell b sivs div (lookupRun_mem _ _ _ hl1) (lookupRun_mem _ _ _ hl2),
        by rw [c3, c1]⟩
    · cases hr) _ s ids s' h
  simp only [List.length_range] at hids hsz
  obtain ⟨hext, hG'⟩ := appended_spec E c root L s s' hG hcache hold (by omega) (fun id h1 h2 => by
    obtain ⟨e1, e2, e3⟩ := hnew id h1 h2
    rw [e1, e2]; exact ⟨by norm_num, e3⟩)
  have hmem : ∀ id ∈ ids, s.cells.size ≤ id ∧ id < s'.cells.size := by
    intro id hid
    rw [hids, List.mem_range'_1] at hid
    omega
  refine ⟨hext, hG', ⟨hids ▸ List.nodup_range', fun id hid => ?_⟩, fun id hid => (hmem id hid).1, ?_⟩
  · obtain ⟨h1, h2⟩ := hmem id hid
    exact ⟨h2, by rw [(hnew id h1 h2).2.1]; exact OwnerOK.refl K⟩
  · unfold sumCounts
    rw [sum_map_const_one ids _ (fun id hid => (hnew id (hmem id hid).1 (hmem id hid).2).1), hids]
    simp only [List.length_range']
    omega

/-- entries of `_get_per_subnode_intervals_lists` are the range lists of buckets of that sub-node, of full width -/
theorem perSub_mem (smallest : List (Ival α)) (subb : List (List (BCell α))) (si : Nat) (sivs : List (Ival α)) (cnt : Int)
    (h : (sivs, cnt) ∈ (perSubnodeRuns smallest subb).getD si []) :
    si < subb.length ∧ ∃ b ∈ subb.getD si [], b.ivs = sivs ∧ b.ivs.length = subb.length - 1 := by
  unfold perSubnodeRuns at h
  simp only at h
  rw [List.getD_eq_getElem?_getD, List.getElem?_map] at h
  cases hz : (List.zip (genCombinations (subb.length - 1) subb.length) subb)[si]? with
  | none => rw [hz] at h; simp at h
  | some pr =>
    rw [hz] at h
    obtain ⟨comb, bs⟩ := pr
    simp only [Option.map_some, Option.getD_some, List.mem_filterMap] at h
    obtain ⟨b, hb, hcond⟩ := h
    rw [List.getElem?_zip_eq_some] at hz
    obtain ⟨_, hz2⟩ := hz
    have hsi : si < subb.length := (List.getElem?_eq_some_iff.mp hz2).1
    refine ⟨hsi, b, ?_, ?_⟩
    · rw [List.getD_eq_getElem?_getD, hz2]; exact hb
    · split_ifs at hcond with hc
      simp only [Option.some.injEq, Prod.mk.injEq] at hcond
      simp only [Bool.and_eq_true, beq_iff_eq] at hc
      exact ⟨hcond.1, hc.2⟩

/-- entries of `_get_per_dimension_interval_lists` for dimension `d` are ranges, at the position of `d`, of buckets of a
sub-node whose combination contains `d` -/
theorem perDim_mem (smallest : List (Ival α)) (subb : List (List (BCell α))) (d : Nat) (div : Ival α) (cnt : Int)
    (h : (div, cnt) ∈ (perDimensionRuns smallest subb).getD d []) :
    ∃ (i : Nat) (comb : List Nat) (bs : List (BCell α)) (pos : Nat) (b : BCell α),
      (genCombinations (subb.length - 1) subb.length)[i]? = some comb ∧ subb[i]? = some bs ∧
      comb.idxOf? d = some pos ∧ b ∈ bs ∧ div = b.ivs.getD pos default := by
  unfold perDimensionRuns at h
  simp only at h
  rw [List.getD_eq_getElem?_getD, List.getElem?_map] at h
  by_cases hd : d < subb.length
  · rw [List.getElem?_range hd] at h
    simp only [Option.map_some, Option.getD_some, List.mem_flatten, List.mem_map] at h
    obtain ⟨l, ⟨pr, hpr, rfl⟩, hmem⟩ := h
    obtain ⟨comb, bs⟩ := pr
    obtain ⟨i, hi, hget⟩ := List.mem_iff_getElem.mp hpr
    have hz : (List.zip (genCombinations (subb.length - 1) subb.length) subb)[i]? = some (comb, bs) := by
      rw [List.getElem?_eq_getElem hi, hget]
    rw [List.getElem?_zip_eq_some] at hz
    simp only at hmem
    cases hidx : comb.idxOf? d with
    | none => rw [hidx] at hmem; simp at hmem
    | some pos =>
      rw [hidx] at hmem
      simp only [List.mem_filterMap] at hmem
      obtain ⟨b, hb, hcond⟩ := hmem
      split_ifs at hcond
      simp only [Option.some.injEq, Prod.mk.injEq] at hcond
      exact ⟨i, comb, bs, pos, b, hz.1, hz.2, hidx, hb, hcond.1.symm⟩
  · rw [List.getElem?_eq_none (by simp; omega)] at h
    simp at h

theorem combos_mem_subset : ∀ (l : List Nat) (k : Nat) (cb : List Nat), cb ∈ combos k l → ∀ x ∈ cb, x ∈ l := by
  intro l
  induction l with
  | nil =>
    intro k cb h x hx
    cases k with
    | zero => simp [combos] at h; subst h; simp at hx
    | succ k => simp [combos] at h
  | cons a l ih =>
    intro k cb h x hx
    cases k with
    | zero => simp [combos] at h; subst h; simp at hx
    | succ k =>
      simp only [combos, List.mem_append, List.mem_map] at h
      rcases h with ⟨cb', hcb', rfl⟩ | h
      · rcases List.mem_cons.mp hx with rfl | hx
        · simp
        · exact List.mem_cons_of_mem _ (ih k cb' hcb' x hx)
      · exact List.mem_cons_of_mem _ (ih (k + 1) cb h x hx)

theorem genCombinations_mem_lt (k n : Nat) (cb : List Nat) (h : cb ∈ genCombinations k n) : ∀ x ∈ cb, x < n := by
  unfold genCombinations at h
  split_ifs at h
  · simp at h
  · intro x hx
    exact List.mem_range.mp (combos_mem_subset _ _ cb h x hx)


/-- sub-nodes of a well-shaped node are well-shaped and have fewer columns -/
theorem Shape.subnode {n s : Node α} (h : Shape n) (hm : some s ∈ n.subnodes) :
    Shape s ∧ s.data.comb.length + 1 ≤ n.data.comb.length := by
  obtain ⟨k, hk⟩ := List.mem_iff_getElem?.mp hm
  obtain ⟨_, hC, hS⟩ := h.facts
  obtain ⟨hkl, hc, _⟩ := hC k s hk
  refine ⟨hS k s hk, ?_⟩
  rw [hc, List.length_eraseIdx]
  split_ifs <;> omega

theorem bucketIntervals_getD {n : Node α} (h : Shape n) (j : Nat) (hj : j < n.data.comb.length) :
    n.bucketIntervals.getD j default =
      if (n.data.actual.getD j default).isSing then n.data.actual.getD j default else n.data.snapped.getD j default := by
  obtain ⟨h1, h2, _⟩ := h.facts.1
  have hjs : j < n.data.snapped.length := by rw [h1]; exact hj
  have hja : j < n.data.actual.length := by rw [h2]; exact hj
  simp [Node.bucketIntervals, List.getD_eq_getElem?_getD, List.getElem?_zipWith, hjs, hja]

theorem genCombinations_small (d : Nat) (hd : d < 2) : genCombinations (d - 1) d = [] := by
  unfold genCombinations
  have : d - 1 = 0 := by omega
  simp [this]

/-- the columns of the `k`-th sub-combination of a node are the node's columns without column `dims-1-k` -/
theorem subcols_eq (comb : List Nat) (k : Nat) (h2 : 2 ≤ comb.length) (hk : k < comb.length) (cb : List Nat)
    (hcb : (genCombinations (comb.length - 1) comb.length)[k]? = some cb) :
    cb.map (fun i => comb.getD i 0) = comb.eraseIdx (comb.length - 1 - k) := by
  rw [genCombinations_pred comb.length h2] at hcb
  rw [List.getElem?_map, List.getElem?_range hk] at hcb
  simp only [Option.map_some, Option.some.injEq] at hcb
  rw [← hcb, ← List.eraseIdx_map]
  congr 1
  apply List.ext_getElem
  · simp
  · intro i h1 _
    simp only [List.length_map, List.length_range] at h1
    simp [List.getD_eq_getElem?_getD, h1]

/-- the column bookkeeping of `_match_subintervals`: sub-list `i` holds buckets over the columns of the `i`-th
sub-combination; a bucket of sub-list `mc % D` with a range for the column it lacks put back in is over all columns -/
theorem matchCell_cols {R : Nat → Ival α → Prop} (cols : List Nat) (subb : List (List (BCell α)))
    (hB : List.Forall₂ (fun cb bs => ∀ b ∈ bs, List.Forall₂ R (cb.map (fun i => cols.getD i 0)) (b : BCell α).ivs)
      (genCombinations (cols.length - 1) cols.length) subb)
    (sm : List (Ival α)) (mc : Nat) (sivs : List (Ival α)) (div : Ival α) (c1 c2 : Int)
    (hs : (sivs, c1) ∈ (perSubnodeRuns sm subb).getD (mc % subb.length) [])
    (hd : (div, c2) ∈ (perDimensionRuns sm subb).getD (subb.length - mc % subb.length - 1) []) :
    List.Forall₂ R cols (sivs.take (subb.length - mc % subb.length - 1) ++ [div] ++ sivs.drop (subb.length - mc % subb.length - 1)) := by
  obtain ⟨hsi, b, hb, rfl, -⟩ := perSub_mem sm subb _ sivs c1 hs
  obtain ⟨i, cbi, bs, pos, b', hcbi, hbsI, hidx, hb'm, rfl⟩ := perDim_mem sm subb _ div c2 hd
  have hD : subb.length = cols.length ∧ 2 ≤ cols.length := by
    by_cases h2 : 2 ≤ cols.length
    · rw [← hB.length_eq, genCombinations_pred _ h2]; simpa using h2
    · have := hB.length_eq
      rw [genCombinations_small _ (by omega)] at this
      rw [← this] at hsi; simp at hsi
  obtain ⟨hD, h2⟩ := hD
  rw [hD] at hsi hb hcbi hidx ⊢
  have hdi : cols.length - mc % cols.length - 1 < cols.length := by omega
  refine forall₂_insert cols _ _ _ hdi ?_ ?_
  · have hcb : (genCombinations (cols.length - 1) cols.length)[mc % cols.length]? =
        some ((List.range cols.length).eraseIdx (cols.length - 1 - mc % cols.length)) := by
      rw [genCombinations_pred _ h2, List.getElem?_map, List.getElem?_range hsi]; rfl
    have := forall₂_getElem? hB hcb (by rw [List.getD_eq_getElem?_getD, List.getElem?_eq_getElem (hD ▸ hsi)]; rfl) b hb
    rwa [subcols_eq cols _ h2 hsi _ hcb, Nat.sub_right_comm] at this
  · have hb' := forall₂_getElem? hB hcbi hbsI b' hb'm
    obtain ⟨hposl, hposv, -⟩ := List.idxOf?_eq_some_iff.mp hidx
    have := forall₂_getElem? hb' (i := pos) (by simp [hposl]; rfl) (List.getElem?_eq_getElem (by rw [← hb'.length_eq]; simpa using hposl))
    simpa [hposv, hdi, List.getD_eq_getElem?_getD, ← hb'.length_eq, hposl] using this

/-- a bucket assembled by `_match_subintervals` from a sub-node bucket and a per-dimension range is accounted for,
column by column -/
theorem matchCell_ok (E : Env α) (c : FCtx α) (root n : Node α) (hsh : Shape n) (s1 : HState α) (hG1 : GInv E c root s1)
    (subIds : List (List Nat))
    (hF : List.Forall₂ (fun (pr : Option (Node α) × List Nat) (y : List Nat) =>
      ∀ id ∈ y, id < s1.cells.size ∧ (s1.cells[id]!).owner.1 = pr.2.map (fun i => n.data.comb.getD i 0))
      (List.zip n.subnodes (genCombinations (n.dims - 1) n.dims)) subIds)
    (subb : List (List (BCell α))) (hsubb : subb = subIds.map (fun ids => ids.map (fun id => s1.cells[id]!)))
    (sm : List (Ival α)) (mc : Nat) (sivs : List (Ival α)) (div : Ival α)
    (hs : ∃ cnt, (sivs, cnt) ∈ (perSubnodeRuns sm subb).getD (mc % (perDimensionRuns sm subb).length) [])
    (hd : ∃ cnt, (div, cnt) ∈ (perDimensionRuns sm subb).getD
      ((perDimensionRuns sm subb).length - mc % (perDimensionRuns sm subb).length - 1) []) :
    CellOK E c root (sivs.take ((perDimensionRuns sm subb).length - mc % (perDimensionRuns sm subb).length - 1) ++ [div] ++
      sivs.drop ((perDimensionRuns sm subb).length - mc % (perDimensionRuns sm subb).length - 1)) (nodeKey n) := by
  obtain ⟨c1, hs⟩ := hs
  obtain ⟨c2, hd⟩ := hd
  have hD : (perDimensionRuns sm subb).length = subb.length := by simp [perDimensionRuns]
  rw [hD] at hs hd ⊢
  rw [cellOK_iff]
  refine matchCell_cols n.data.comb subb ?_ sm mc sivs div c1 c2 hs hd
  -- every sub-bucket is a valid cell, accounted for over the columns of its sub-combination
  have hB : List.Forall₂ (fun (pr : Option (Node α) × List Nat) (bs : List (BCell α)) =>
      ∀ b ∈ bs, List.Forall₂ (RangeOK E c root) (pr.2.map (fun i => n.data.comb.getD i 0)) b.ivs)
      (List.zip n.subnodes (genCombinations (n.dims - 1) n.dims)) subb := by
    rw [hsubb, List.forall₂_map_right_iff]
    refine hF.imp fun pr y h b hb => ?_
    obtain ⟨id, hid, rfl⟩ := List.mem_map.mp hb
    rw [← (h id hid).2, ← cellOK_iff]
    exact hG1.2.2 id (h id hid).1
  by_cases h2 : 2 ≤ n.data.comb.length
  · have := (List.forall₂_map_left_iff (f := Prod.snd) (R := fun (cb : List Nat) (bs : List (BCell α)) =>
      ∀ b ∈ bs, List.Forall₂ (RangeOK E c root) (cb.map (fun i => n.data.comb.getD i 0)) b.ivs)).mpr hB
    rwa [List.map_snd_zip] at this
    rw [(hsh.facts.1).2.2 h2, show n.dims = n.data.comb.length from rfl, genCombinations_pred _ h2]; simp
  · rw [show n.dims = n.data.comb.length from rfl, genCombinations_small _ (by omega)] at hB
    rw [genCombinations_small _ (by omega)]
    simpa using hB


/-- `_refine_buckets`, given `_harvest_node` one level down -/
theorem refine_of_node (E : Env α) (c : FCtx α) (hlt : 0 ≤ c.ap.supp.lt) (root : Node α) (fuel : Nat)
    (hN : NodeStmt E c root fuel) : RefineStmt E c root (fuel + 1) := by
  intro n count s ids s' hsh hreach hrel hG hc h
  rw [refineBuckets] at h
  obtain ⟨subIds, s1, h1, h2⟩ := StateT_bind_ok h
  clear h
  have hdims : n.dims = n.data.comb.length := rfl
  -- collecting the sub-buckets: allocations and harvests of lower-dimensional nodes
  obtain ⟨hG1, hE1, hF⟩ := mapM_inv _ (GInv E c root) (Ext n.data.comb.length)
    (fun (pr : Option (Node α) × List Nat) (y : List Nat) (st : HState α) =>
      ∀ id ∈ y, id < st.cells.size ∧ (st.cells[id]!).owner.1 = pr.2.map (fun i => n.data.comb.getD i 0))
    (Ext.refl _) (fun _ _ _ => Ext.trans)
    (fun _ _ _ _ hq hr id hid => ⟨lt_of_lt_of_le (hq id hid).1 hr.1, by rw [(hr.2 id (hq id hid).1).2.1]; exact (hq id hid).2⟩)
    _ (by
      intro b hb s0 y s0' hG0 hr
      obtain ⟨sub, comb⟩ := b
      have hcomb : comb ∈ genCombinations (n.dims - 1) n.dims := (List.of_mem_zip hb).2
      simp only at hr
      split_ifs at hr with hsing
      · obtain ⟨cnt, s2, h3, hr⟩ := StateT_bind_ok hr
        obtain ⟨hN', rfl⟩ := liftEx_run _ _ _ _ h3
        -- every range of the all-singular projection is the node's own released range for that column
        have hok : CellOK E c root (comb.map (fun i => n.data.actual.getD i default))
            (comb.map (fun i => n.data.comb.getD i 0), n.data.path) := by
          rw [cellOK_iff, List.forall₂_map_left_iff, List.forall₂_map_right_iff, List.forall₂_same]
          intro j hjc
          have hj : j < n.data.comb.length := genCombinations_mem_lt _ _ comb hcomb j hjc
          refine ⟨n, j, hreach, hrel, by rw [bucketIntervals_length hsh]; exact hj, hj, ?_, rfl⟩
          rw [bucketIntervals_getD hsh _ hj, if_pos (List.all_eq_true.mp hsing _
            (List.mem_map_of_mem (f := fun i => n.data.actual.getD i default) hjc))]
        obtain ⟨e1, e2, e3, -, -⟩ := single_spec E c root n.data.comb.length _ _ cnt
          (le_trans hlt (noisyCount_ge E c n cnt hN')) hok s0 y s0' hG0 hr
        exact ⟨e2, e1, fun id hid => ⟨(e3.2 id hid).1, (e3.2 id hid).2.1⟩⟩
      · cases sub with
        | none =>
          obtain ⟨rfl, rfl⟩ := StateT_pure_ok hr
          exact ⟨hG0, Ext.refl _ _, fun id hid => by simp at hid⟩
        | some sn =>
          have hm : some sn ∈ n.subnodes := (List.of_mem_zip hb).1
          obtain ⟨hsh', hlen⟩ := hsh.subnode hm
          obtain ⟨⟨e1, e2, e3⟩, _⟩ := hN sn s0 y s0' hsh' (Reach.sub n sn hreach hm) hG0 hr
          refine ⟨e2, e1.mono hlen, ?_⟩
          -- the owner columns of the sub-node's cells are the columns of this combination
          obtain ⟨k, hz⟩ := List.mem_iff_getElem?.mp hb
          rw [List.getElem?_zip_eq_some] at hz
          have h2' : 2 ≤ n.data.comb.length := by
            by_contra hlt2
            rw [hdims, genCombinations_small _ (by omega)] at hcomb
            simp at hcomb
          obtain ⟨hkl, hcs, _⟩ := hsh.facts.2.1 k sn hz.1
          have := subcols_eq n.data.comb k h2' hkl comb (by rw [← hdims]; exact hz.2)
          intro id hid
          exact ⟨(e3.2 id hid).1, by rw [(e3.2 id hid).2.1]; simp only [nodeKey]; rw [hcs, this]⟩) s subIds s1 hG h1
  have finish : ∀ (ids : List Nat) (s' : HState α),
      (Ext n.data.comb.length s1 s' ∧ GInv E c root s' ∧ GoodIds (nodeKey n) s' ids ∧ (∀ id ∈ ids, s1.cells.size ≤ id) ∧
        sumCounts s'.cells ids = count) → RefineSpec E c root n count s ids s' := by
    intro ids s' ⟨e1, e2, e3, e4, e5⟩
    exact ⟨hE1.trans e1, e2, e3, fun id hid => le_trans hE1.1 (e4 id hid), e5⟩
  have fallback := fun (h : (HM.newCell (nodeKey n) n.bucketIntervals count >>= fun id => pure [id]).run s1 = .ok (ids, s')) =>
    finish _ _ (single_spec E c root _ _ _ count hc (CellOK.self E c root n hreach hrel (bucketIntervals_length hsh)) s1 ids s' hG1 h)
  split_ifs at h2 with ha
  · exact fallback h2
  · obtain ⟨subb, s2, h3, h5⟩ := StateT_bind_ok h2
    clear h2
    rw [mapM_mapM_cell_run] at h3
    simp only [Except.ok.injEq, Prod.mk.injEq] at h3
    obtain ⟨rfl, rfl⟩ := h3
    obtain ⟨sm0, s3, h4, h6⟩ := StateT_bind_ok h5
    clear h5
    obtain ⟨_, rfl⟩ := liftEx_run _ _ _ _ h4
    dsimp only at h6
    split_ifs at h6 with hb
    · exact fallback h6
    · exact finish _ _ (matchSub_spec E c root _ _ count hc _ _
        (fun mc sivs div hs hd => matchCell_ok E c root n hsh _ hG1 subIds hF _ rfl _ mc sivs div hs hd) _ ids s' hG1 h6)



theorem getElem!_modify (cells : Array (BCell α)) (i j : Nat) (f : BCell α → BCell α) (hj : j < cells.size) :
    (cells.modify i f)[j]! = if i = j then f cells[j]! else cells[j]! := by
  have h1 : (cells.modify i f)[j]! = ((cells.modify i f)[j]?).getD default := by simp [Array.getElem!_eq_getD, Array.getD]; split <;> simp_all
  have h2 : cells[j]! = (cells[j]?).getD default := by simp [Array.getElem!_eq_getD, Array.getD]; split <;> simp_all
  rw [h1, Array.getElem?_modify, h2]
  have : cells[j]? = some cells[j] := Array.getElem?_eq_getElem hj
  split_ifs <;> simp [this]

/-- `setCounts` on a duplicate-free list of valid ids: the listed cells get the given counts, nothing else changes -/
theorem setCounts_zip : ∀ (ids : List Nat) (cs : List Int) (cells : Array (BCell α)), ids.Nodup → (∀ id ∈ ids, id < cells.size) →
    cs.length = ids.length →
    (HM.setCounts cells (ids.zip cs)).size = cells.size ∧
    (∀ id < cells.size, (HM.setCounts cells (ids.zip cs))[id]!.ivs = cells[id]!.ivs ∧
      (HM.setCounts cells (ids.zip cs))[id]!.owner = cells[id]!.owner ∧
      (id ∉ ids → (HM.setCounts cells (ids.zip cs))[id]!.count = cells[id]!.count)) ∧
    ids.map (fun id => (HM.setCounts cells (ids.zip cs))[id]!.count) = cs
  | [], cs, cells, _, _, hl => by
    have : cs = [] := List.eq_nil_of_length_eq_zero hl
    subst this
    exact ⟨rfl, fun _ _ => ⟨rfl, rfl, fun _ => rfl⟩, rfl⟩
  | i :: ids, c :: cs, cells, hnd, hv, hl => by
    have hsz : (cells.modify i fun b => { b with count := c }).size = cells.size := Array.size_modify
    obtain ⟨i1, i2, i3⟩ := setCounts_zip ids cs (cells.modify i fun b => { b with count := c }) (List.nodup_cons.mp hnd).2
      (fun id hid => hsz ▸ hv id (by simp [hid])) (by simpa using hl)
    have e : HM.setCounts cells ((i :: ids).zip (c :: cs)) =
        HM.setCounts (cells.modify i fun b => { b with count := c }) (ids.zip cs) := rfl
    rw [e]
    refine ⟨i1.trans hsz, fun id hid => ?_, ?_⟩
    · obtain ⟨a1, a2, a3⟩ := i2 id (hsz ▸ hid)
      rw [a1, a2, getElem!_modify _ _ _ _ hid]
      refine ⟨by split_ifs <;> rfl, by split_ifs <;> rfl, fun hn => ?_⟩
      rw [a3 fun h => hn (by simp [h]), getElem!_modify _ _ _ _ hid, if_neg fun h => hn (by simp [h])]
    · rw [List.map_cons, i3, (i2 i (hsz ▸ hv i (by simp))).2.2 (List.nodup_cons.mp hnd).1, getElem!_modify _ _ _ _ (hv i (by simp)),
        if_pos rfl]

/-- the in-place rescaling of a node's bucket list: a frame step for trees of more columns, the invariant stays, the
list adds up to the new counts -/
theorem rescale_spec (E : Env α) (c : FCtx α) (root : Node α) (K : NodeKey) (s : HState α) (ids : List Nat) (cs : List Int)
    (hG : GInv E c root s) (hgood : GoodIds K s ids) (hlen : cs.length = ids.length) (hcs : ∀ x ∈ cs, 0 ≤ x) :
    Ext (K.1.length + 1) s { s with cells := HM.setCounts s.cells (ids.zip cs) } ∧
    GInv E c root { s with cells := HM.setCounts s.cells (ids.zip cs) } ∧
    sumCounts (HM.setCounts s.cells (ids.zip cs)) ids = cs.sum := by
  obtain ⟨b1, b2, b3⟩ := setCounts_zip ids cs s.cells hgood.1 (fun id hid => (hgood.2 id hid).1) hlen
  have hext : Ext (K.1.length + 1) s { s with cells := HM.setCounts s.cells (ids.zip cs) } :=
    ⟨le_of_eq b1.symm, fun id hid => ⟨(b2 id hid).1, (b2 id hid).2.1, fun hl => (b2 id hid).2.2 fun hin => by
      rw [(hgood.2 id hin).2.1] at hl; omega⟩⟩
  refine ⟨hext, ⟨fun id hid => ?_, fun p hp => (hG.2.1 p hp).mono hext, fun id hid => ?_⟩, by rw [sumCounts, b3]⟩
  · simp only [b1] at hid
    by_cases hin : id ∈ ids
    · have := List.mem_map_of_mem (f := fun id => (HM.setCounts s.cells (ids.zip cs))[id]!.count) hin
      rw [b3] at this
      exact hcs _ this
    · rw [(b2 id hid).2.2 hin]; exact hG.1 id hid
  · simp only [b1] at hid
    rw [(b2 id hid).1, (b2 id hid).2.1]; exact hG.2.2 id hid

/-- fresh ids after old ones -/
theorem GoodIds.append {K : NodeKey} {s : HState α} {a b : List Nat} (ha : GoodIds K s a) (hb : GoodIds K s b)
    (hlt : ∀ x ∈ a, ∀ y ∈ b, x < y) : GoodIds K s (a ++ b) :=
  ⟨List.nodup_append.mpr ⟨ha.1, hb.1, fun x hx y hy hxy => by have := hlt x hx y hy; omega⟩,
    fun id hid => (List.mem_append.mp hid).elim (ha.2 id) (hb.2 id)⟩


theorem sumCounts_append (cells : Array (BCell α)) (a b : List Nat) : sumCounts cells (a ++ b) = sumCounts cells a + sumCounts cells b := by
  simp [sumCounts]

theorem sumCounts_congr (c1 c2 : Array (BCell α)) (ids : List Nat) (h : ∀ id ∈ ids, c2[id]!.count = c1[id]!.count) :
    sumCounts c2 ids = sumCounts c1 ids := by
  unfold sumCounts
  congr 1
  exact List.map_congr_left h

theorem sumCounts_nonneg (cells : Array (BCell α)) (ids : List Nat) (h : ∀ id ∈ ids, 0 ≤ cells[id]!.count) : 0 ≤ sumCounts cells ids := by
  unfold sumCounts
  apply List.sum_nonneg
  intro x hx
  obtain ⟨id, hid, rfl⟩ := List.mem_map.mp hx
  exact h id hid

/-- the concatenated bucket lists of the children of a branch are a good list for the branch -/
theorem flatten_good (d : NodeData α) (subs : List (Option (Node α))) (ch : List (Nat × Node α)) (s : HState α)
    (idss : List (List Nat)) (hsh : Shape (.branch d subs ch))
    (h : List.Forall₂ (fun p y => GoodIds (nodeKey p.2) s y) ch idss) :
    GoodIds (nodeKey (.branch d subs ch)) s idss.flatten := by
  cases hsh with
  | branch _ _ _ _ _ _ hkeys hchild _ =>
  have hkey : ∀ p ∈ ch, nodeKey p.2 = (d.comb, d.path ++ [p.1]) := by
    intro p hp
    obtain ⟨h1, h2, _⟩ := hchild p hp
    simp [nodeKey, h1, h2]
  constructor
  · rw [List.nodup_flatten]
    constructor
    · intro y hy
      obtain ⟨p, _, hg⟩ := forall₂_mem_right h y hy
      exact hg.1
    · have hpk : ch.Pairwise (fun a b => a.1 ≠ b.1 ∧ a ∈ ch ∧ b ∈ ch) := by
        have h1 : ch.Pairwise (fun a b => a.1 ≠ b.1) := (List.pairwise_map.mp hkeys)
        have h2 : ch.Pairwise (fun a b => a ∈ ch ∧ b ∈ ch) := List.pairwise_of_forall_mem_list (fun a ha b hb => ⟨ha, hb⟩) |>.imp id
        exact h1.and h2 |>.imp (fun ⟨x, y⟩ => ⟨x, y.1, y.2⟩)
      refine forall₂_pairwise h hpk ?_
      intro a b x y ha hb ⟨hne, hma, hmb⟩ id hx hy
      have oa := (ha.2 id hx).2
      have ob := (hb.2 id hy).2
      rw [hkey a hma] at oa
      rw [hkey b hmb] at ob
      have hpa := oa.2
      have hpb := ob.2
      simp only at hpa hpb
      have := List.prefix_of_prefix_length_le hpa hpb (by simp)
      have e := List.IsPrefix.eq_of_length this (by simp)
      have := List.append_cancel_left e
      simp only [List.cons.injEq, and_true] at this
      exact hne this
  · intro id hid
    obtain ⟨y, hy, hidy⟩ := List.mem_flatten.mp hid
    obtain ⟨p, hp, hg⟩ := forall₂_mem_right h y hy
    obtain ⟨hv, ho⟩ := hg.2 id hidy
    rw [hkey p hp] at ho
    refine ⟨hv, ho.1, ?_⟩
    exact List.IsPrefix.trans (List.prefix_append _ _) ho.2


/-- `_harvest_branch`, given `_harvest_node` and `_refine_buckets` one level down -/
theorem branch_of_node (E : Env α) (c : FCtx α) (hlt : 0 ≤ c.ap.supp.lt) (root : Node α) (fuel : Nat)
    (hN : NodeStmt E c root fuel) (hR : RefineStmt E c root fuel) : BranchStmt E c root (fuel + 1) := by
  intro d subs ch s ids s' hsh hreach hG h
  have hrel : Releasable E c (.branch d subs ch) := fun hl => by simp [Node.isLeaf] at hl
  rw [harvestBranch] at h
  obtain ⟨idss, s1, h1, h2⟩ := StateT_bind_ok h
  clear h
  have hchild : ∀ p ∈ ch, Shape p.2 ∧ p.2.data.comb.length = d.comb.length := by
    cases hsh with
    | branch _ _ _ _ _ _ _ hc hs => exact fun p hp => ⟨hs p hp, by rw [(hc p hp).1]⟩
  -- the children
  obtain ⟨hG1, hE1, hF⟩ := mapM_inv _ (GInv E c root) (Ext (d.comb.length + 1))
    (fun (p : Nat × Node α) (y : List Nat) (s : HState α) => GoodIds (nodeKey p.2) s y) (Ext.refl _)
    (fun _ _ _ => Ext.trans) (fun _ _ _ _ hq hr => GoodIds.mono (L := d.comb.length + 1) hq hr) ch (by
      intro p hp s0 y s0' hG0 hr
      obtain ⟨⟨e1, e2, e3⟩, _⟩ := hN p.2 s0 y s0' (hchild p hp).1 (Reach.child d subs ch p hreach hp) hG0 hr
      exact ⟨e2, (hchild p hp).2 ▸ e1, e3⟩) s idss s1 hG h1
  have hgood := flatten_good d subs ch s1 idss hsh hF
  generalize idss.flatten = ids0 at hgood h2
  obtain ⟨sg, s1', h3, h4⟩ := StateT_bind_ok h2
  clear h2
  cases h3
  obtain ⟨N, s2, h5, h⟩ := StateT_bind_ok h4
  clear h4
  obtain ⟨hNc, rfl⟩ := liftEx_run _ _ _ _ h5
  have hN0 : 0 ≤ N := le_trans hlt (noisyCount_ge E c _ N hNc)
  have hcc0 : 0 ≤ sumCounts s1.cells ids0 := sumCounts_nonneg _ _ (fun id hid => hG1.1 id (hgood.2 id hid).1)
  refine (fun (hm : Spec E c root (.branch d subs ch) s ids s' ∧ (sumCounts s'.cells ids = N ∨ sumCounts s'.cells ids = N - 1)) =>
    ⟨hm.1, Or.inr ⟨hrel, N, hNc, hm.2⟩⟩) ?_
  split_ifs at h with hlow h1d hz
  · -- one column: a single bucket
    obtain ⟨e1, e2, e3, -, e4⟩ := single_spec E c root (d.comb.length + 1) _ _ N hN0
      (CellOK.self E c root _ hreach hrel (bucketIntervals_length hsh)) s1 ids s' hG1 h
    exact ⟨⟨hE1.trans e1, e2, e3⟩, Or.inl e4⟩
  · -- the children's buckets and a refinement for the rest
    obtain ⟨rids, s3, h7, h8⟩ := StateT_bind_ok h
    obtain ⟨rfl, rfl⟩ := StateT_pure_ok h8
    obtain ⟨e1, e2, e3, e4, e5⟩ := hR (.branch d subs ch) (N - sumCounts s1.cells ids0) s1 rids s3 hsh hreach hrel hG1 (by omega) h7
    refine ⟨⟨hE1.trans (e1.mono (Nat.le_succ _)), e2, (hgood.mono e1).append e3 fun a ha b hb =>
      lt_of_lt_of_le (hgood.2 a ha).1 (e4 b hb)⟩, Or.inl ?_⟩
    rw [sumCounts_append, e5, sumCounts_congr s1.cells s3.cells ids0 fun id hid =>
      (e1.2 id (hgood.2 id hid).1).2.2 (le_of_eq (congrArg List.length (hgood.2 id hid).2.1).symm)]
    ring
  · cases h
  · -- the children's buckets, rescaled
    obtain ⟨u, s3, h7, h8⟩ := StateT_bind_ok h
    cases h7
    obtain ⟨rfl, rfl⟩ := StateT_pure_ok h8
    obtain ⟨a1, a2, a3⟩ := C10_adjust_sum_core (α := α) (ids0.map (fun id => s1.cells[id]!.count)) (sumCounts s1.cells ids0) N
      (by intro x hx; obtain ⟨id, hid, rfl⟩ := List.mem_map.mp hx; exact hG1.1 id (hgood.2 id hid).1) rfl
      (lt_of_le_of_ne hcc0 (Ne.symm (by simpa using hz))) hN0
    obtain ⟨b1, b2, b3⟩ := rescale_spec E c root _ s1 ids0 _ hG1 hgood (by rw [a2, List.length_map]) a1
    exact ⟨⟨hE1.trans b1, b2, hgood.mono b1⟩, b3 ▸ a3⟩


/-- `_harvest_node` (cache look-up, then leaf or branch), given the two one level down -/
theorem node_of_leaf_branch (E : Env α) (c : FCtx α) (root : Node α) (fuel : Nat) (hL : LeafStmt E c root fuel)
    (hB : BranchStmt E c root fuel) : NodeStmt E c root (fuel + 1) := by
  intro n s ids s' hsh hreach hG h
  rw [harvestNode] at h
  obtain ⟨sg, s0, h1, h2⟩ := StateT_bind_ok h
  clear h
  cases h1
  cases hf : s.cache.find? (fun p => p.1 == nodeKey n) with
  | some hit =>
    rw [hf] at h2
    obtain ⟨rfl, rfl⟩ := StateT_pure_ok h2
    have hk : hit.1 = nodeKey n := by simpa using List.find?_some hf
    exact ⟨⟨Ext.refl _ _, hG, hk ▸ hG.2.1 hit (List.mem_of_find?_eq_some hf)⟩, fun hnone => by simp at hnone⟩
  | none =>
    rw [hf] at h2
    -- entering the list into the cache
    have finish : ∀ (ids1 : List Nat) (s1 : HState α), Spec E c root n s ids1 s1 ∧ Cons E c n ids1 s1 →
        (do modify (fun (s : HState α) => { s with cache := (nodeKey n, ids1) :: s.cache }); pure ids1 : HM α (List Nat)).run s1
          = .ok (ids, s') → Spec E c root n s ids s' ∧ (none = (none : Option (NodeKey × List Nat)) → Cons E c n ids s') := by
      intro ids1 s1 ⟨⟨e1, e2, e3⟩, hcons⟩ hr
      obtain ⟨u, s2, h5, h6⟩ := StateT_bind_ok hr
      cases h5
      obtain ⟨rfl, rfl⟩ := StateT_pure_ok h6
      have hext : Ext (n.data.comb.length + 1) s1 { s1 with cache := (nodeKey n, ids1) :: s1.cache } :=
        ⟨le_refl _, fun _ _ => ⟨rfl, rfl, fun _ => rfl⟩⟩
      refine ⟨⟨e1.trans hext, ⟨e2.1, fun p hp => ?_, e2.2.2⟩, e3.mono hext⟩, fun _ => hcons⟩
      rcases List.mem_cons.mp hp with rfl | hp
      · exact e3.mono hext
      · exact (e2.2.1 p hp).mono hext
    cases n with
    | leaf d subs rows =>
      obtain ⟨ids1, s1, h3, h4⟩ := StateT_bind_ok h2
      exact finish ids1 s1 (hL _ s ids1 s1 hsh hreach hG h3) h4
    | branch d subs ch =>
      obtain ⟨ids1, s1, h3, h4⟩ := StateT_bind_ok h2
      exact finish ids1 s1 (hB d subs ch s ids1 s1 hsh hreach hG h3) h4

/-- all four statements, for every recursion budget -/
theorem harvest_all (E : Env α) (c : FCtx α) (hlt : 0 ≤ c.ap.supp.lt) (root : Node α) :
    ∀ fuel, NodeStmt E c root fuel ∧ RefineStmt E c root fuel ∧ BranchStmt E c root fuel ∧ LeafStmt E c root fuel :=
  harvest_fuel_induction
    (fun n s ids s' _ _ _ h => by rw [harvestNode] at h; cases h)
    (fun n count s ids s' _ _ _ _ _ h => by rw [refineBuckets] at h; cases h)
    (fun d subs ch s ids s' _ _ _ h => by rw [harvestBranch] at h; cases h)
    (leaf_of_refine E c hlt root) (node_of_leaf_branch E c root) (refine_of_node E c hlt root) (branch_of_node E c hlt root)

/-- what `harvest` returns: the positive cells among those the root's harvest lists, in a final state that satisfies
the invariant, with the conservation clause for the root -/
theorem harvest_spec (E : Env α) (c : FCtx α) (hlt : 0 ≤ c.ap.supp.lt) (root : Node α) (hsh : Shape root) (stream : List Nat)
    (bs : List (BCell α)) (n : Nat) (h : harvest E c root stream = .ok (bs, n)) :
    ∃ ids s, bs = (ids.map fun id => s.cells[id]!).filter (fun b => b.count > 0) ∧ GInv E c root s ∧
      GoodIds (nodeKey root) s ids ∧ Cons E c root ids s := by
  unfold harvest at h
  split at h
  · cases h
  · rename_i ids s hrun
    cases h
    have hG0 : GInv E c root ({ stream := stream } : HState α) :=
      ⟨fun id hid => by simp at hid, fun p hp => by simp at hp, fun id hid => by simp at hid⟩
    obtain ⟨⟨_, hG, hgood⟩, hcons⟩ := (harvest_all E c hlt root 100000).1 root _ ids s hsh Reach.refl hG0 hrun
    exact ⟨ids, s, rfl, hG, hgood, hcons rfl⟩


end
