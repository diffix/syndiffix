import SdxProofs.Relabel
import SdxProofs.HarvestLemmas
set_option linter.unusedSectionVars false
/-!
# Position independence of the harvest

Harvesting the renamed tree over a table that agrees on the tree's columns gives the same buckets (ranges, counts, order)
and consumes the same random draws. Proved as a simulation: every harvesting step, run from the renamed state, ends in
the renamed state with the same result. The simulation lemmas follow the syntax of the harvest (`pure`, `>>=`, `if`,
`mapM`, the primitives of `HM`), so a proof that a piece of the harvest is simulated reads like that piece.
-/

section
variable {α : Type}

def relabKey (ρ : Nat → Nat) (k : NodeKey) : NodeKey := (k.1.map ρ, k.2)

def relabCell (ρ : Nat → Nat) (b : BCell α) : BCell α := { b with owner := relabKey ρ b.owner }

/-- the renamed harvest state: ghost owners and cache keys renamed, everything else as it is -/
def HState.relab (ρ : Nat → Nat) (s : HState α) : HState α :=
  { s with cells := s.cells.map (relabCell ρ), cache := s.cache.map (fun p => (relabKey ρ p.1, p.2)) }

/-- `x'` run from the renamed state does what `x` does from the original state: same outcome (error or value, the value
mapped by `r`), renamed final state -/
def SimR {β γ : Type} (ρ : Nat → Nat) (r : β → γ) (x : HM α β) (x' : HM α γ) : Prop :=
  ∀ s, x'.run (HState.relab ρ s) = (x.run s).map (fun p => (r p.1, HState.relab ρ p.2))

abbrev Sim {β : Type} (ρ : Nat → Nat) (x x' : HM α β) : Prop := SimR ρ id x x'

section
variable {β γ β' γ' δ : Type} {ρ : Nat → Nat} {r : β → γ}

theorem SimR.pure (ρ : Nat → Nat) (r : β → γ) (a : β) : SimR (α := α) ρ r (pure a) (pure (r a)) :=
  fun _ => rfl

theorem SimR.throw (ρ : Nat → Nat) (r : β → γ) (e : String) : SimR (α := α) ρ r (throw e) (throw e) :=
  fun _ => rfl

theorem SimR.bind {r' : β' → γ'} {x : HM α β} {x' : HM α γ} {f : β → HM α β'} {f' : γ → HM α γ'}
    (hx : SimR ρ r x x') (hf : ∀ a, SimR ρ r' (f a) (f' (r a))) : SimR ρ r' (x >>= f) (x' >>= f') := by
  intro s
  simp only [StateT.run_bind]
  rw [hx s]
  cases h : x.run s with
  | error e => rfl
  | ok p => exact hf p.1 p.2

theorem SimR.ite {p : Prop} [Decidable p] {x y : HM α β} {x' y' : HM α γ} (hx : SimR ρ r x x') (hy : SimR ρ r y y') :
    SimR ρ r (if p then x else y) (if p then x' else y') := by
  split_ifs
  exacts [hx, hy]

theorem SimR.get_bind {g : HState α → HM α β} {g' : HState α → HM α γ}
    (h : ∀ s, SimR ρ r (g s) (g' (HState.relab ρ s))) : SimR ρ r (get >>= g) (get >>= g') :=
  fun s => h s s

theorem SimR.mapM {g : δ → HM α β} {g' : δ → HM α γ} :
    ∀ (l : List δ), (∀ a ∈ l, SimR ρ r (g a) (g' a)) → SimR ρ (List.map r) (l.mapM g) (l.mapM g') := by
  intro l
  induction l with
  | nil => exact fun _ => SimR.pure ρ _ []
  | cons a l ih =>
    intro hall
    simp only [List.mapM_cons]
    exact .bind (hall a List.mem_cons_self) fun b =>
      .bind (ih fun x hx => hall x (List.mem_cons_of_mem a hx)) fun bs => SimR.pure ρ _ _

theorem Sim.mapM {g g' : δ → HM α β} (l : List δ) (h : ∀ a ∈ l, Sim ρ (g a) (g' a)) : Sim ρ (l.mapM g) (l.mapM g') := by
  have := SimR.mapM l h
  rwa [List.map_id_fun] at this

theorem Sim.liftEx (ρ : Nat → Nat) (e : Except String β) : Sim (α := α) ρ (liftEx e) (liftEx e) := by
  intro s
  cases e <;> rfl

theorem Sim.modify {m m' : HState α → HState α} (h : ∀ s, m' (HState.relab ρ s) = HState.relab ρ (m s)) :
    Sim (α := α) ρ (modify m) (modify m') := by
  intro s
  show Except.ok ((), m' (HState.relab ρ s)) = Except.ok ((), HState.relab ρ (m s))
  rw [h]

theorem Sim.newCell (ρ : Nat → Nat) (o : NodeKey) (ivs : List (Ival α)) (cnt : Int) :
    Sim (α := α) ρ (HM.newCell o ivs cnt) (HM.newCell (relabKey ρ o) ivs cnt) := by
  intro s
  show Except.ok ((HState.relab ρ s).cells.size, _) = Except.ok (s.cells.size, _)
  simp [HState.relab, relabCell]

theorem getElem!_map_relab [Inhabited α] (ρ : Nat → Nat) (cells : Array (BCell α)) (id : Nat) :
    (cells.map (relabCell ρ))[id]! = relabCell ρ (cells[id]!) := by
  by_cases h : id < cells.size
  · simp [h]
  · simp [h]; rfl

theorem SimR.cell [Inhabited α] (ρ : Nat → Nat) (id : Nat) : SimR (α := α) ρ (relabCell ρ) (HM.cell id) (HM.cell id) :=
  fun s => congrArg (fun b => Except.ok (b, HState.relab ρ s)) (getElem!_map_relab ρ s.cells id)

end

theorem Sim.randint (ρ : Nat → Nat) (hi : Int) : Sim (α := α) ρ (HM.randint hi) (HM.randint hi) := by
  intro s
  rw [HM.randint_run, HM.randint_run]
  show (if hi < 0 then _ else match s.stream with | [] => _ | v :: rest => _) = _
  split_ifs
  · rfl
  · cases s.stream with
    | nil => rfl
    | cons v rest => dsimp only; split_ifs <;> rfl

end

section
variable {α : Type} [Add α] [Sub α] [Mul α] [Div α] [LT α] [LE α] [BEq α]
  [DecidableLT α] [DecidableLE α] [ScalarOps α] [Inhabited α]

/-! What the harvest computes from cells reads their ranges and counts only, not their owners. -/

theorem counts_relab (ρ : Nat → Nat) (cells : Array (BCell α)) (ids : List Nat) :
    ids.map (fun id => ((cells.map (relabCell ρ))[id]!).count) = ids.map (fun id => (cells[id]!).count) :=
  List.map_congr_left fun id _ => by rw [getElem!_map_relab]; rfl

theorem sumCounts_relab (ρ : Nat → Nat) (cells : Array (BCell α)) (ids : List Nat) :
    sumCounts (cells.map (relabCell ρ)) ids = sumCounts cells ids :=
  congrArg List.sum (counts_relab ρ cells ids)

theorem setCounts_relab (ρ : Nat → Nat) (pairs : List (Nat × Int)) (cells : Array (BCell α)) :
    HM.setCounts (cells.map (relabCell ρ)) pairs = (HM.setCounts cells pairs).map (relabCell ρ) :=
  List.foldl_hom (Array.map (relabCell ρ)) fun cs p => by
    refine Array.ext (by simp) fun i h1 h2 => ?_
    simp only [Array.getElem_modify, Array.getElem_map]
    split_ifs <;> rfl

theorem smallestIntervals_relab (ρ : Nat → Nat) (subb : List (List (BCell α))) :
    smallestIntervals (subb.map (fun bs => bs.map (relabCell ρ))) = smallestIntervals subb := by
  simp only [smallestIntervals, List.length_map, List.zip_map_right, List.filterMap_map, Function.comp_def, Prod.map, id]
  congr 1
  funext d
  congr 2
  funext ⟨cb, bs⟩
  cases bs with
  | nil => rfl
  | cons b rest => simp only [List.map_cons, List.foldl_map]; rfl

theorem perDim_relab (ρ : Nat → Nat) (sm : List (Ival α)) (subb : List (List (BCell α))) :
    perDimensionRuns sm (subb.map (fun bs => bs.map (relabCell ρ))) = perDimensionRuns sm subb := by
  simp only [perDimensionRuns, List.length_map, List.zip_map_right, List.map_map, Function.comp_def, Prod.map, id, List.filterMap_map]
  rfl

theorem perSub_relab (ρ : Nat → Nat) (sm : List (Ival α)) (subb : List (List (BCell α))) :
    perSubnodeRuns sm (subb.map (fun bs => bs.map (relabCell ρ))) = perSubnodeRuns sm subb := by
  simp only [perSubnodeRuns, List.length_map, List.zip_map_right, List.map_map, Function.comp_def, Prod.map, id, List.filterMap_map]
  rfl

variable {c c' : FCtx α} {ρ : Nat → Nat} {S : List Nat}

theorem compactNodeInterval_relab (E : Env α) (h : Agree c c' ρ S) (comb : List Nat) (hc : ∀ j ∈ comb, j ∈ S) (rows : List Nat)
    (dim : Nat) (hd : dim < comb.length) (iv : Ival α) :
    compactNodeInterval E c' (comb.map ρ) rows dim iv = compactNodeInterval E c comb rows dim iv := by
  unfold compactNodeInterval
  have hcol : (comb.map ρ).getD dim 0 = ρ (comb.getD dim 0) := by simp [List.getD_eq_getElem?_getD, hd]
  have hmem : comb.getD dim 0 ∈ S := hc _ (by rw [List.getD_eq_getElem?_getD, List.getElem?_eq_getElem hd]; simp)
  have hv : ∀ r, c'.value r ((comb.map ρ).getD dim 0) = c.value r (comb.getD dim 0) := fun r => by rw [hcol]; exact h.vals r _ hmem
  have hp : ∀ rs : List Nat, rs.map c'.pidRow = rs.map c.pidRow := fun rs => List.map_congr_left (fun r _ => h.pidRow r)
  simp only [hv, hp, h.kind, h.ap]

theorem compactNodeIntervals_relab (E : Env α) (h : Agree c c' ρ S) (n : Node α) (hc : ∀ j ∈ n.data.comb, j ∈ S)
    (hl : n.data.snapped.length ≤ n.data.comb.length) :
    compactNodeIntervals E c' (Node.relabel ρ n) = compactNodeIntervals E c n := by
  cases n with
  | branch d subs ch => rw [Node.relabel_branch]; rfl
  | leaf d subs rows =>
    rw [Node.relabel_leaf]
    cases hst : d.isStub with
    | false => simp only [compactNodeIntervals, NodeData.relabel, hst, Bool.false_eq_true, if_false]
    | true =>
      simp only [compactNodeIntervals, NodeData.relabel, hst, if_true]
      refine List.map_congr_left fun pr hpr => ?_
      have hk := List.mem_range.mp (List.of_mem_zip hpr).1
      exact compactNodeInterval_relab E h d.comb hc rows pr.1 (lt_of_lt_of_le hk hl) pr.2

theorem compactSmallest_relab (E : Env α) (h : Agree c c' ρ S) (n : Node α) (hc : ∀ j ∈ n.data.comb, j ∈ S)
    (hl : n.data.snapped.length ≤ n.data.comb.length) (sm : List (Ival α)) :
    compactSmallest E c' (Node.relabel ρ n) sm = compactSmallest E c n sm := by
  unfold compactSmallest
  rw [compactNodeIntervals_relab E h n hc hl]

theorem relabel_nodeKey (n : Node α) : nodeKey (Node.relabel ρ n) = relabKey ρ (nodeKey n) := by
  simp [nodeKey, relabKey, Node.relabel_data, NodeData.relabel]

theorem relabKey_inj (hρ : Function.Injective ρ) : Function.Injective (relabKey ρ) := by
  intro a b h
  simp only [relabKey, Prod.mk.injEq] at h
  exact Prod.ext (List.map_injective_iff.mpr hρ h.1) h.2

theorem find?_relab (hρ : Function.Injective ρ) (cache : List (NodeKey × List Nat)) (key : NodeKey) :
    (cache.map (fun p => (relabKey ρ p.1, p.2))).find? (fun p => p.1 == relabKey ρ key) =
      (cache.find? (fun p => p.1 == key)).map (fun p => (relabKey ρ p.1, p.2)) := by
  rw [List.find?_map]
  congr 2
  funext p
  simp [(relabKey_inj hρ).eq_iff]

/-- what the simulation needs of a tree: columns in `S`, ranges no longer than the column list — for every node, children
and sub-nodes alike -/
inductive HGood (S : List Nat) : Node α → Prop
  | leaf (d : NodeData α) (subs : List (Option (Node α))) (rows : List Nat) :
      (∀ j ∈ d.comb, j ∈ S) → d.snapped.length ≤ d.comb.length → (∀ s, some s ∈ subs → HGood S s) → HGood S (.leaf d subs rows)
  | branch (d : NodeData α) (subs : List (Option (Node α))) (ch : List (Nat × Node α)) :
      (∀ j ∈ d.comb, j ∈ S) → d.snapped.length ≤ d.comb.length → (∀ s, some s ∈ subs → HGood S s) →
      (∀ p ∈ ch, HGood S p.2) → HGood S (.branch d subs ch)

theorem HGood.facts {n : Node α} (h : HGood S n) :
    (∀ j ∈ n.data.comb, j ∈ S) ∧ n.data.snapped.length ≤ n.data.comb.length ∧ (∀ s, some s ∈ n.subnodes → HGood S s) := by
  cases h with
  | leaf _ _ _ h1 h2 h3 => exact ⟨h1, h2, h3⟩
  | branch _ _ _ h1 h2 h3 _ => exact ⟨h1, h2, h3⟩

/-- the single-cell fallback -/
theorem Sim.single (K : NodeKey) (ivs : List (Ival α)) (cnt : Int) :
    Sim ρ (do let id ← HM.newCell (α := α) K ivs cnt; pure [id]) (do let id ← HM.newCell (α := α) (relabKey ρ K) ivs cnt; pure [id]) :=
  SimR.bind (Sim.newCell ρ K ivs cnt) (fun a => SimR.pure ρ id [a])

theorem Sim.matchSub (K : NodeKey) (count : Int) (perDim : List (List (Ival α × Int))) (perSub : List (List (List (Ival α) × Int))) :
    Sim ρ (matchSubintervals K count perDim perSub) (matchSubintervals (relabKey ρ K) count perDim perSub) := by
  unfold matchSubintervals
  refine Sim.mapM _ fun mc _ => .bind (Sim.randint ρ _) fun a => .bind (Sim.randint ρ _) fun b => ?_
  dsimp only [id]
  split
  · exact Sim.newCell ρ K _ 1
  · exact SimR.throw ρ id "index"

def NodeSim (E : Env α) (c c' : FCtx α) (ρ : Nat → Nat) (S : List Nat) (fuel : Nat) : Prop :=
  ∀ n, HGood S n → Sim ρ (harvestNode E c fuel n) (harvestNode E c' fuel (Node.relabel ρ n))

def RefineSim (E : Env α) (c c' : FCtx α) (ρ : Nat → Nat) (S : List Nat) (fuel : Nat) : Prop :=
  ∀ n count, HGood S n → Sim ρ (refineBuckets E c fuel n count) (refineBuckets E c' fuel (Node.relabel ρ n) count)

def BranchSim (E : Env α) (c c' : FCtx α) (ρ : Nat → Nat) (S : List Nat) (fuel : Nat) : Prop :=
  ∀ n ch, HGood S n → (∀ p ∈ ch, HGood S p.2) →
    Sim ρ (harvestBranch E c fuel n ch) (harvestBranch E c' fuel (Node.relabel ρ n) (ch.map (fun p => (p.1, Node.relabel ρ p.2))))

theorem leafSim_of_refine (E : Env α) (h : Agree c c' ρ S) (fuel : Nat) (hR : RefineSim E c c' ρ S fuel) (n : Node α)
    (hg : HGood S n) : Sim ρ (harvestLeaf E c fuel n) (harvestLeaf E c' fuel (Node.relabel ρ n)) := by
  unfold harvestLeaf
  simp only [relabel_overThreshold E h, relabel_noisyCount E h, relabel_isSing, relabel_dims, relabel_bucketIntervals,
    relabel_nodeKey, h.ap]
  exact .ite (.bind (Sim.liftEx ρ _) fun cnt => .ite (Sim.single _ _ _) (hR n cnt hg)) (SimR.pure ρ id [])

theorem refineSim_of_node (E : Env α) (h : Agree c c' ρ S) (fuel : Nat) (hN : NodeSim E c c' ρ S fuel) :
    RefineSim E c c' ρ S (fuel + 1) := by
  intro n count hg
  obtain ⟨hc, hl, hsub⟩ := hg.facts
  rw [refineBuckets, refineBuckets]
  simp only [relabel_dims, relabel_subnodes, relabel_nodeKey, relabel_bucketIntervals, relabel_noisyCount E h,
    Node.relabel_data, NodeData.relabel]
  rw [List.zip_map_left, List.mapM_map]
  refine .bind (Sim.mapM _ fun ⟨sub, comb⟩ hb => ?_) fun subIds => .ite (Sim.single _ _ _) <|
    .bind (SimR.mapM _ fun ids _ => SimR.mapM _ fun id _ => SimR.cell ρ id) fun subb => ?_
  · have hcomb : comb ∈ genCombinations (n.dims - 1) n.dims := (List.of_mem_zip hb).2
    -- the ghost owner of a lower-dimensional cell is over the renamed columns
    have eo : (comb.map (fun i => (n.data.comb.map ρ).getD i 0), n.data.path) =
        relabKey ρ (comb.map (fun i => n.data.comb.getD i 0), n.data.path) := by
      simp only [relabKey, List.map_map, Prod.mk.injEq, and_true]
      refine List.map_congr_left fun i hi => ?_
      have : i < n.data.comb.length := genCombinations_mem_lt _ _ comb hcomb i hi
      simp [List.getD_eq_getElem?_getD, this]
    dsimp only [Function.comp, Prod.map, id]
    rw [eo]
    refine .ite (.bind (Sim.liftEx ρ _) fun cnt => Sim.single _ _ _) ?_
    cases sub with
    | none => exact SimR.pure (α := α) ρ id ([] : List Nat)
    | some sn => exact hN sn (hsub sn (List.of_mem_zip hb).1)
  · rw [smallestIntervals_relab]
    refine .bind (Sim.liftEx ρ _) fun sm0 => ?_
    dsimp only [id]
    rw [compactSmallest_relab E h n hc hl, perDim_relab, perSub_relab]
    exact .ite (Sim.single _ _ _) (Sim.matchSub _ _ _ _)

theorem branchSim_of_node (E : Env α) (h : Agree c c' ρ S) (fuel : Nat) (hN : NodeSim E c c' ρ S fuel)
    (hR : RefineSim E c c' ρ S fuel) : BranchSim E c c' ρ S (fuel + 1) := by
  intro n ch hg hgch
  have hset : ∀ pairs, Sim (α := α) ρ (modify fun s => { s with cells := HM.setCounts s.cells pairs })
      (modify fun s => { s with cells := HM.setCounts s.cells pairs }) :=
    fun pairs => Sim.modify fun s => by simp only [HState.relab]; rw [setCounts_relab]
  rw [harvestBranch, harvestBranch]
  simp only [relabel_dims, relabel_nodeKey, relabel_bucketIntervals, relabel_noisyCount E h]
  rw [List.mapM_map]
  refine .bind (Sim.mapM _ fun p hp => hN p.2 (hgch p hp)) fun idss => SimR.get_bind fun s0 => ?_
  dsimp only [id]
  have esum : sumCounts (HState.relab ρ s0).cells idss.flatten = sumCounts s0.cells idss.flatten := sumCounts_relab ρ _ _
  have ecnt : idss.flatten.map (fun id => ((HState.relab ρ s0).cells[id]!).count) =
      idss.flatten.map (fun id => (s0.cells[id]!).count) := counts_relab ρ _ _
  simp only [esum, ecnt]
  exact .bind (Sim.liftEx ρ _) fun parent =>
    .ite (.ite (Sim.single _ _ _) (.bind (hR _ _ hg) fun rids => SimR.pure ρ id _))
      (.ite (.bind (SimR.throw ρ id "zerodiv") fun _ => .bind (hset _) fun _ => SimR.pure ρ id _)
        (.bind (hset _) fun _ => SimR.pure ρ id _))

theorem nodeSim_of_leaf_branch (E : Env α) (hρ : Function.Injective ρ) (fuel : Nat)
    (hL : ∀ n, HGood S n → Sim ρ (harvestLeaf E c fuel n) (harvestLeaf E c' fuel (Node.relabel ρ n)))
    (hB : BranchSim E c c' ρ S fuel) : NodeSim E c c' ρ S (fuel + 1) := by
  intro n hg
  rw [harvestNode, harvestNode]
  simp only [relabel_nodeKey]
  refine SimR.get_bind fun s0 => ?_
  rw [show (HState.relab ρ s0).cache = s0.cache.map (fun p => (relabKey ρ p.1, p.2)) from rfl, find?_relab hρ]
  cases s0.cache.find? (fun p => p.1 == nodeKey n) with
  | some hit => exact SimR.pure ρ id hit.2
  | none =>
    have store : ∀ ids : List Nat, Sim ρ
        (do modify (fun (s : HState α) => { s with cache := (nodeKey n, ids) :: s.cache }); pure ids)
        (do modify (fun (s : HState α) => { s with cache := (relabKey ρ (nodeKey n), ids) :: s.cache }); pure ids) :=
      fun ids => .bind (Sim.modify fun s => rfl) fun _ => SimR.pure ρ id ids
    cases n with
    | leaf d subs rows =>
      rw [Node.relabel_leaf]
      simp only [Option.map_none]
      rw [← Node.relabel_leaf]
      exact .bind (hL _ hg) store
    | branch d subs ch =>
      rw [Node.relabel_branch]
      simp only [Option.map_none]
      rw [← Node.relabel_branch]
      exact .bind (hB _ ch hg (by cases hg; assumption)) store

theorem harvest_sim_all (E : Env α) (h : Agree c c' ρ S) (hρ : Function.Injective ρ) :
    ∀ fuel, NodeSim E c c' ρ S fuel ∧ RefineSim E c c' ρ S fuel ∧ BranchSim E c c' ρ S fuel ∧
      ∀ n, HGood S n → Sim ρ (harvestLeaf E c fuel n) (harvestLeaf E c' fuel (Node.relabel ρ n)) :=
  harvest_fuel_induction
    (fun n _ => by rw [harvestNode, harvestNode]; exact SimR.throw ρ id "fuel")
    (fun n count _ => by rw [refineBuckets, refineBuckets]; exact SimR.throw ρ id "fuel")
    (fun n ch _ _ => by rw [harvestBranch, harvestBranch]; exact SimR.throw ρ id "fuel")
    (leafSim_of_refine E h) (nodeSim_of_leaf_branch E hρ) (refineSim_of_node E h) (branchSim_of_node E h)

end

section
variable {α : Type} [Field α] [LinearOrder α] [IsStrictOrderedRing α] [FloorRing α] [Inhabited α]

/-- a well-shaped tree over columns in `S` meets the requirements of the simulation, sub-nodes included -/
theorem HGood.of_shape {S : List Nat} {t : Node α} (h : Shape t) (hc : ∀ j ∈ t.data.comb, j ∈ S) : HGood S t := by
  -- the columns of a sub-node are among the node's
  have sub : ∀ {d : NodeData α} {subs : List (Option (Node α))}, SubsC d.comb d.snapped subs → (∀ j ∈ d.comb, j ∈ S) →
      (∀ (k : Nat) (s : Node α), subs[k]? = some (some s) → (∀ j ∈ s.data.comb, j ∈ S) → HGood S s) →
      ∀ s, some s ∈ subs → HGood S s := by
    intro d subs hC hc ih s hs
    obtain ⟨k, hk, hks⟩ := List.mem_iff_getElem.mp hs
    have hk' : subs[k]? = some (some s) := by rw [List.getElem?_eq_getElem hk, hks]
    refine ih k s hk' fun j hj => hc j ?_
    rw [(hC k s hk').2.1] at hj
    exact List.mem_of_mem_eraseIdx hj
  induction h with
  | leaf d subs rows hl hC hS ih => exact .leaf _ _ _ hc (le_of_eq hl.1) (sub hC hc ih)
  | branch d subs ch hl hC hS hkeys hchild hCh ih1 ih2 =>
    exact .branch _ _ _ hc (le_of_eq hl.1) (sub hC hc ih1) fun p hp => ih2 p hp (by rw [(hchild p hp).1]; exact hc)

end
