import SdxProofs.ForestLemmas
set_option linter.unusedSectionVars false
set_option linter.unusedVariables false
/-!
# Height of the trees a forest hands out

`add_row` recurses at most as deep as its budget, so every tree built by `Forest` has a height bounded by that budget;
folding outliers in and pushing the root down never make a tree higher. Consequence: the budgeted traversals of the
model (`matchingRows 100000`, …) see the whole tree — `matchingRows` is `allRows`, the rows of the leaves — so the
theorems about a node's released count speak about all the rows the invariant says it holds.
-/

section
variable {α : Type}

/-- the tree has at most `k` levels -/
inductive HeightLE : Node α → Nat → Prop
  | leaf (d : NodeData α) (s : List (Option (Node α))) (rows : List Nat) (k : Nat) : HeightLE (.leaf d s rows) (k + 1)
  | branch (d : NodeData α) (s : List (Option (Node α))) (ch : List (Nat × Node α)) (k : Nat) :
      (∀ p ∈ ch, HeightLE p.2 k) → HeightLE (.branch d s ch) (k + 1)

theorem HeightLE.mono {n : Node α} {k k' : Nat} (h : HeightLE n k) (hk : k ≤ k') : HeightLE n k' := by
  induction h generalizing k' with
  | leaf d s rows k =>
    obtain ⟨j, rfl⟩ : ∃ j, k' = j + 1 := ⟨k' - 1, by omega⟩
    exact HeightLE.leaf d s rows j
  | branch d s ch k _ ih =>
    obtain ⟨j, rfl⟩ : ∃ j, k' = j + 1 := ⟨k' - 1, by omega⟩
    exact HeightLE.branch d s ch j (fun p hp => ih p hp (by omega))

/-- a traversal whose budget is at least the height returns all rows -/
theorem matchingRows_eq_allRows {n : Node α} {k : Nat} (h : HeightLE n k) :
    ∀ fuel, k ≤ fuel → n.matchingRows fuel = n.allRows := by
  induction h with
  | leaf d s rows k =>
    intro fuel hf
    obtain ⟨f, rfl⟩ : ∃ f, fuel = f + 1 := ⟨fuel - 1, by omega⟩
    simp [Node.matchingRows, Node.allRows_leaf]
  | branch d s ch k _ ih =>
    intro fuel hf
    obtain ⟨f, rfl⟩ : ∃ f, fuel = f + 1 := ⟨fuel - 1, by omega⟩
    rw [Node.matchingRows, Node.allRows_branch]
    congr 1
    apply List.map_congr_left
    intro p hp
    exact ih p hp f (by omega)

end

section
variable {α : Type} [Field α] [LinearOrder α] [IsStrictOrderedRing α] [FloorRing α] [Inhabited α]

/-- `add_row` recurses at most `fuel` levels deep: it keeps every height bound above its budget -/
theorem addRow_height (E : Env α) (c : FCtx α) (rl : Int) (fuel depth : Nat) (t : Node α) (row : Nat) (t' : Node α) (k : Nat)
    (h : addRow E c rl fuel depth t row = some t') (hk : HeightLE t k) (hf : fuel < k) : HeightLE t' k := by
  fun_induction addRow E c rl fuel depth t row generalizing t' k with
  | case1 => cases h
  | case2 fuel depth d subs rows row _ ih =>
    exact foldlM_some_inv _ (fun _ b => HeightLE b k) (fun r _ b b' hb h1 => ih b r b' k h1 hb (by omega)) _ _ _
      ((HeightLE.branch _ subs [] 0 (by simp)).mono (by omega)) h
  | case3 => cases h; exact (HeightLE.leaf _ _ _ 0).mono (by omega)
  | case4 fuel depth d subs ch row idx =>
    cases h
    cases hk with
    | branch _ _ _ k0 hc =>
      refine HeightLE.branch _ subs _ k0 ?_
      simp only [List.forall_mem_append, List.forall_mem_singleton]
      exact ⟨hc, (HeightLE.leaf _ _ _ 0).mono (by omega)⟩
  | case5 fuel depth d subs ch row idx _ _ ih =>
    obtain ⟨ch', hm, rfl⟩ := Option.map_eq_some_iff.mp h
    cases hk with
    | branch _ _ _ k0 hc =>
      exact HeightLE.branch _ subs ch' k0 (mapM_update_all _ _ (fun b => HeightLE b k0)
        (fun b b' hb hb' => ih (idx, b) b' k0 hb' hb (by omega)) ch ch' hm hc)

/-- folding an outlier row in keeps the shape, hence the height -/
theorem addOutlier_height (c : FCtx α) (fuel : Nat) (t : Node α) (row : Nat) (t' : Node α) (k : Nat)
    (h : addOutlier c fuel t row = some t') (hk : HeightLE t k) : HeightLE t' k := by
  fun_induction addOutlier c fuel t row generalizing t' k with
  | case1 => cases h
  | case2 => cases h; cases hk; exact HeightLE.leaf _ _ _ _
  | case3 => cases h
  | case4 fuel d subs ch row _ _ ih =>
    obtain ⟨ch', hm, rfl⟩ := Option.map_eq_some_iff.mp h
    cases hk with
    | branch _ _ _ k0 hc =>
      exact HeightLE.branch _ subs ch' k0
        (mapM_update_all _ _ (fun b => HeightLE b k0) (fun b b' hb hb' => ih (0, b) b' _ hb' hb) ch ch' hm hc)

/-- the pushed-down root is a sub-tree with outliers folded in: never higher -/
theorem pushDown_height (E : Env α) (c : FCtx α) (fuel : Nat) (t t' : Node α) (k : Nat)
    (h : pushDown E c fuel t = some t') (hk : HeightLE t k) : HeightLE t' k := by
  have fold : ∀ (k : Nat) (l : List Nat) (t1 t2 : Node α), HeightLE t1 k →
      l.foldlM (fun t r => addOutlier c 100000 t r) t1 = some t2 → HeightLE t2 k := fun k =>
    foldlM_some_inv _ (fun _ b => HeightLE b k) (fun r _ b b' hb hr => addOutlier_height c _ b r b' k hr hb)
  fun_induction pushDown E c fuel t generalizing t' k with
  | case1 => cases h
  | case2 => cases h; exact hk
  | case3 fuel d s ch rs c0 hc0 _ _ ih =>
    obtain ⟨t1, hpd, hf⟩ := Option.bind_eq_some_iff.mp h
    cases hk with
    | branch _ _ _ k0 hc =>
      exact (fold k0 rs t1 t' (ih t1 k0 hpd (hc _ (lookupChild_mem hc0))) hf).mono (by omega)
  | case4 fuel d s ch ls c1 hc1 _ _ ih =>
    obtain ⟨t1, hpd, hf⟩ := Option.bind_eq_some_iff.mp h
    cases hk with
    | branch _ _ _ k0 hc =>
      exact (fold k0 ls t1 t' (ih t1 k0 hpd (hc _ (lookupChild_mem hc1))) hf).mono (by omega)
  | case5 => cases h; exact hk

/-- inserting all rows with budget 4000 gives a tree of at most 4001 levels -/
theorem buildRows_height (E : Env α) (c : FCtx α) (rl : Int) (root t : Node α) (h : buildRows E c rl root = some t)
    (hr : HeightLE root 1) : HeightLE t 4001 :=
  foldlM_some_inv _ (fun _ b => HeightLE b 4001) (fun r _ b b' hb h1 => addRow_height E c rl 4000 0 b (r + 1) b' 4001 h1 hb (by omega))
    _ _ _ (hr.mono (by omega)) h

/-- every tree a forest hands out has at most 4001 levels -/
theorem forest_tree_height (E : Env α) (inp : ForestIn α) (F : Forest α) (hinit : Forest.init E inp = .ok F)
    (fuel : Nat) (comb : List Nat) (t : Node α) (h : F.tree? E fuel comb = some t) : HeightLE t 4001 := by
  obtain ⟨_, _, _, _, _, ht⟩ := forest_init_trees1 E inp F hinit
  refine forest_tree_induct E F (fun _ t => HeightLE t 4001) (fun j hj => ?_)
    (fun _ _ _ t _ _ _ h => buildRows_height E F.ctx _ _ t h (HeightLE.leaf _ _ _ 0)) fuel comb t h
  obtain ⟨t0, h0, h1⟩ := Option.bind_eq_some_iff.mp (ht j hj)
  exact pushDown_height E F.ctx 4000 t0 _ 4001 h1 (buildRows_height E F.ctx _ _ t0 h0 (HeightLE.leaf _ _ _ 0))

/-- the released count of every forest tree's root is computed over all the rows of its leaves -/
theorem forest_tree_matchingRows (E : Env α) (inp : ForestIn α) (F : Forest α) (hinit : Forest.init E inp = .ok F)
    (fuel : Nat) (comb : List Nat) (t : Node α) (h : F.tree? E fuel comb = some t) :
    t.matchingRows 100000 = t.allRows :=
  matchingRows_eq_allRows (forest_tree_height E inp F hinit fuel comb t h) 100000 (by omega)

end
