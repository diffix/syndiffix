import Props.C18
import SdxProofs.SubsFrom
import SdxProofs.HarvestLemmas
set_option linter.unusedSectionVars false
/-! The nodes of the trees a forest hands out: closed under children and sub-nodes, each inside a tree that satisfies the invariant. -/

section
variable {α : Type} [Field α] [LinearOrder α] [IsStrictOrderedRing α] [FloorRing α] [Inhabited α]

/-- every row a node holds that was not folded in as an outlier (and lies in the tree's root range) has its value, in every column,
inside the range the node releases for that column -/
theorem TInvO.values_inside (E : Env α) (c : FCtx α) (rr : List (Ival α)) (out : List Nat) (t m : Node α)
    (hT : TInvO E c rr out t) (hs : Node.Sub m t) (r : Nat) (hr : r ∈ m.allRows) (hout : r ∉ out) (j : Nat)
    (hj : j < m.data.comb.length)
    (hroot : (rr.getD j default).lo ≤ c.value r (m.data.comb.getD j 0) ∧ c.value r (m.data.comb.getD j 0) ≤ (rr.getD j default).hi) :
    (m.bucketIntervals.getD j default).lo ≤ c.value r (m.data.comb.getD j 0) ∧
    c.value r (m.data.comb.getD j 0) ≤ (m.bucketIntervals.getD j default).hi := by
  have hN := (TInvO.sub hs hT).nodeOK
  have hin : r ∈ inRows out m.allRows := mem_inRows.mpr ⟨hr, hout⟩
  rw [bucketIntervals_getD (TInvO.sub hs hT).shape j hj]
  split_ifs with hsing
  · exact (hN.hull j hj).1 _ (List.mem_map.mpr ⟨r, hin, rfl⟩)
  · exact ⟨(hN.inside r hin j hj hroot).1, (hN.inside r hin j hj hroot).2.1⟩

/-- a releasable node — a branch, or a leaf passing the filter — of a tree satisfying the invariant passed the
low-count filter on rows it holds (folded outliers included) -/
theorem releasable_licence (E : Env α) (c : FCtx α) (rr : List (Ival α)) (out : List Nat) (t m : Node α)
    (hT : TInvO E c rr out t) (hs : Node.Sub m t) (hrel : Releasable E c m) :
    ∃ h0 : List Nat, h0.Subperm m.allRows ∧
      (c.kind.newEntity.addMany (h0.map c.pidRow)).isLowCount E c.ap.salt c.ap.supp = false := by
  have := TInvO.sub hs hT
  cases this with
  | leaf d subs rows hN =>
    obtain ⟨hist, hperm, hc⟩ := hN.counter
    have hover := hrel rfl
    simp only [Node.overThreshold, Node.data, Bool.not_eq_true'] at hover
    refine ⟨hist, by rw [Node.allRows_leaf]; exact hperm.subperm, ?_⟩
    rw [← hc]; exact hover
  | branch d subs ch hN hB hC => exact hB.licence

/-- a node of one of the trees the forest hands out -/
def InForest (E : Env α) (F : Forest α) (m : Node α) : Prop :=
  ∃ fuel comb t, 1 ≤ comb.length ∧ F.tree? E fuel comb = some t ∧ Node.Sub m t

theorem inForest_childClosed (E : Env α) (F : Forest α) : ChildClosed (InForest E F) := by
  intro d s ch p ⟨fuel, comb, t, hk, ht, hsub⟩ hp
  exact ⟨fuel, comb, t, hk, ht, (Node.Sub.child _ d s ch p hp (Node.Sub.refl _)).trans hsub⟩

/-- the sub-nodes of every node of every forest tree are nodes of forest trees -/
theorem forest_subsFrom (E : Env α) (inp : ForestIn α) (F : Forest α) (hinit : Forest.init E inp = .ok F) :
    ∀ (fuel : Nat) (comb : List Nat) (t : Node α), 1 ≤ comb.length → F.tree? E fuel comb = some t →
      SubsFrom (InForest E F) t := by
  obtain ⟨_, _, _, _, _, ht1⟩ := forest_init_trees1 E inp F hinit
  intro fuel
  induction fuel with
  | zero => intro comb t _ h; simp [Forest.tree?] at h
  | succ fuel IH =>
    intro comb t hk h
    by_cases h1 : ∃ j, comb = [j]
    · obtain ⟨j, rfl⟩ := h1
      rw [Forest.tree?] at h
      obtain ⟨hj, rfl⟩ := List.getElem?_eq_some_iff.mp h
      have := ht1 j hj
      simp only [tree1, Option.bind_eq_some_iff] at this
      obtain ⟨t0, hb, hp⟩ := this
      have h0 : SubsFrom (InForest E F) (mkLeaf E F.ctx [j] [] (treeBaseSeed E inp.names [j]) []
          [F.rootSnapped0.getD j default] 0) := by
        unfold mkLeaf; exact SubsFrom.leaf _ _ _ (fun s hs => by simp at hs)
      exact pushDown_subsFrom _ E F.ctx 4000 t0 _ (buildRows_subsFrom _ (inForest_childClosed E F) E F.ctx _ _ t0 h0 hb) hp
    · rw [Forest.tree?] at h
      · split at h
        · cases h
        · rename_i subTrees hm
          have hall := mapM_option_some _ _ _ hm
          have h0 : SubsFrom (InForest E F) (mkLeaf E F.ctx comb [] (treeBaseSeed E F.names comb) (subTrees.map some)
              (comb.map fun j => F.snapped.getD j default) 0) := by
            unfold mkLeaf
            apply SubsFrom.leaf
            intro s hs
            rw [List.mem_map] at hs
            obtain ⟨s', hs', hse⟩ := hs
            simp only [Option.some.injEq] at hse
            subst hse
            obtain ⟨sc, hsc, hts⟩ := forall₂_mem_right hall s' hs'
            have hk2 : 2 ≤ comb.length := by
              match comb, hk, h1 with
              | [j], _, h1 => exact absurd ⟨j, rfl⟩ h1
              | _ :: _ :: _, _, _ => simp
            rw [genCombinations_pred comb.length hk2] at hsc
            obtain ⟨i, hi, rfl⟩ := List.mem_map.mp hsc
            refine ⟨fuel, _, s', ?_, hts, Node.Sub.refl _⟩
            simp only [List.length_map, List.length_eraseIdx, List.length_range]
            have := List.mem_range.mp hi
            split_ifs <;> omega
          exact buildRows_subsFrom _ (inForest_childClosed E F) E F.ctx 0 _ t h0 h
      · intro j hj; exact h1 ⟨j, hj⟩

/-- everything reachable from a forest tree — through children and sub-nodes, to any depth — is a node of a forest tree -/
theorem reach_inForest (E : Env α) (inp : ForestIn α) (F : Forest α) (hinit : Forest.init E inp = .ok F) (t m : Node α)
    (ht : InForest E F t) (hr : Reach t m) : InForest E F m := by
  refine reach_of_subsFrom (InForest E F) (inForest_childClosed E F) ?_ t ht m hr
  intro n ⟨fuel, comb, t', hk, ht', hsub⟩
  exact SubsFrom.sub hsub (forest_subsFrom E inp F hinit fuel comb t' hk ht')

/-- every node of a forest tree is a node of a tree that satisfies the invariant (with exemptions only for folded
outliers in single-column trees) -/
theorem inForest_invariant (E : Env α) (inp : ForestIn α) (F : Forest α) (hinit : Forest.init E inp = .ok F)
    (hn : 0 < inp.raw.size) (m : Node α) (hm : InForest E F m) :
    ∃ rr out t, TInvO E F.ctx rr out t ∧ Node.Sub m t := by
  obtain ⟨fuel, comb, t, hk, ht, hsub⟩ := hm
  obtain ⟨_, out, hTO, _⟩ := forest_tree_invO E inp F hinit hn fuel comb t hk ht
  exact ⟨_, out, t, hTO, hsub⟩

end
