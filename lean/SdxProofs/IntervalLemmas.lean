import SdxProofs.Field
import SdxModel.Interval
import Mathlib.Tactic.FieldSimp
import Mathlib.Tactic.Push
set_option linter.unusedSectionVars false
/-! Helper lemmas for `interval.py` over an ordered field with floor. -/

section
variable {α : Type} [Field α] [LinearOrder α] [IsStrictOrderedRing α] [FloorRing α]

theorem nextPow2_ge {x : α} (_hx : 0 < x) : x ≤ (ScalarOps.nextPow2 x : α) := by
  simpa using Int.self_le_zpow_clog (b := 2) (by norm_num) x

theorem nextPow2_lt {x : α} (hx : 0 < x) : (ScalarOps.nextPow2 x : α) < 2 * x := by
  have h := Int.zpow_pred_clog_lt_self (R := α) (b := 2) one_lt_two hx
  rw [snextPow2_eq, ← sub_add_cancel (Int.clog 2 x) 1, zpow_add_one₀ two_ne_zero, mul_comm]
  exact mul_lt_mul_of_pos_left (mod_cast h) two_pos

theorem nextPow2_pos (x : α) : 0 < (ScalarOps.nextPow2 x : α) := by
  rw [snextPow2_eq]; exact zpow_pos two_pos _

theorem floorBy_le (v : α) {a : α} (ha : 0 < a) : floorBy v a ≤ v :=
  (le_div_iff₀ ha).mp (Int.floor_le (v / a))

theorem lt_floorBy_add (v : α) {a : α} (ha : 0 < a) : v < floorBy v a + a := by
  have h := (div_lt_iff₀ ha).mp (Int.lt_floor_add_one (v / a))
  rwa [add_one_mul] at h

namespace Ival
variable (i : Ival α)

theorem isSing_iff : i.isSing = true ↔ i.lo = i.hi := beq_iff_eq

theorem middle_of_eq (h : i.lo = i.hi) : i.middle = i.lo := if_pos (beq_iff_eq.mpr h)

theorem middle_of_ne (h : i.lo ≠ i.hi) : i.middle = (i.lo + i.hi) / 2 := by
  rw [middle, if_neg (mt i.isSing_iff.mp h), ofInt_eq, Int.cast_ofNat]

/-- the mid-point lies in the range, strictly inside a proper one -/
theorem middle_mem (h : i.lo ≤ i.hi) :
    i.lo ≤ i.middle ∧ i.middle ≤ i.hi ∧ (i.lo < i.hi → i.lo < i.middle ∧ i.middle < i.hi) := by
  rcases h.eq_or_lt with he | hlt
  · rw [middle_of_eq i he]; exact ⟨le_rfl, h, fun hlt => absurd he hlt.ne⟩
  · rw [middle_of_ne i hlt.ne]
    have h1 := left_lt_add_div_two.mpr hlt
    have h2 := add_div_two_lt_right.mpr hlt
    exact ⟨h1.le, h2.le, fun _ => ⟨h1, h2⟩⟩

theorem halfIndex_eq_zero_iff (v : α) : i.halfIndex v = 0 ↔ i.lo = i.hi ∨ v < i.middle := by
  simp only [halfIndex, Bool.or_eq_true, decide_eq_true_eq, ← isSing_iff]
  split_ifs with h <;> simp [h]

theorem halfIndex_eq_one_iff (v : α) : i.halfIndex v = 1 ↔ i.lo ≠ i.hi ∧ i.middle ≤ v := by
  rw [← not_lt, ← not_or, ← halfIndex_eq_zero_iff]
  unfold halfIndex
  split_ifs <;> simp

/-- how `half_index` decides: the lower half for a single point or a value below the mid-point -/
theorem halfIndex_cases (v : α) :
    (i.halfIndex v = 0 ∧ (i.lo = i.hi ∨ v < i.middle)) ∨ (i.halfIndex v = 1 ∧ i.lo ≠ i.hi ∧ i.middle ≤ v) := by
  by_cases h : i.lo = i.hi ∨ v < i.middle
  · exact Or.inl ⟨(i.halfIndex_eq_zero_iff v).mpr h, h⟩
  · rw [not_or, not_lt] at h
    exact Or.inr ⟨(i.halfIndex_eq_one_iff v).mpr h, h⟩

theorem half_zero : i.half 0 = ⟨i.lo, i.middle⟩ := rfl
theorem half_one : i.half 1 = ⟨i.middle, i.hi⟩ := rfl

end Ival

theorem nullMapping_eq (i : Ival α) :
    nullMapping i = if 0 < i.hi then 2 * i.hi else if i.lo < 0 then 2 * i.lo else 1 := by
  simp only [nullMapping, ofInt_eq, Int.cast_zero, Int.cast_one, Int.cast_ofNat]

end
