import Mathlib.Data.List.Basic
import Mathlib.Data.List.Forall2
import Mathlib.Data.List.Nodup
import Mathlib.Data.Nat.Init
/-! Insertion sorts as folds of an insert function, facts about `List.eraseDups` used for request validation, and facts about `List.Forall₂`. -/

/-- A sort that folds an insert function is a permutation as soon as inserting is consing up to order: this serves every
insertion sort of the model (`sortDesc`, `sortAscStable`, `sortStr`; `sortDescStable` folds from the left). -/
theorem List.foldr_insert_perm {γ : Type} {ins : γ → List γ → List γ} (h : ∀ x l, (ins x l).Perm (x :: l)) (l : List γ) :
    (l.foldr ins []).Perm l := by
  induction l with
  | nil => exact .refl _
  | cons x xs ih => exact (h x _).trans (ih.cons x)

theorem List.foldl_insert_perm {γ : Type} {ins : γ → List γ → List γ} (h : ∀ x l, (ins x l).Perm (x :: l)) (l acc : List γ) :
    (l.foldl (fun acc x => ins x acc) acc).Perm (l ++ acc) := by
  induction l generalizing acc with
  | nil => exact .refl _
  | cons x xs ih => exact (ih _).trans ((List.perm_middle.symm.trans ((h x acc).symm.append_left xs)).symm)


theorem List.getD_mem {γ : Type} (l : List γ) (i : Nat) (d : γ) (h : i < l.length) : l.getD i d ∈ l := by
  simp [h]

theorem List.map_getD_range {γ : Type} (l : List γ) (d : γ) : (List.range l.length).map (fun i => l.getD i d) = l :=
  List.ext_getElem (by simp) (fun i h _ => by simp at h; simp [h])

theorem List.getD_map_of_lt {γ δ : Type} (f : γ → δ) (l : List γ) (k : Nat) (d : δ) (h : k < l.length) :
    (l.map f).getD k d = f l[k] := by simp [h]

section
variable {γ : Type} [BEq γ] [LawfulBEq γ]

/-- `eraseDups` keeps the first occurrence of every element, in order -/
theorem List.eraseDups_sublist_nodup : ∀ l : List γ, l.eraseDups.Sublist l ∧ l.eraseDups.Nodup := by
  intro l
  induction hl : l.length using Nat.strong_induction_on generalizing l with
  | _ n ih =>
    cases l with
    | nil => simp
    | cons a as =>
      rw [List.eraseDups_cons]
      obtain ⟨h1, h2⟩ := ih _ (by subst hl; exact Nat.lt_succ_of_le (List.length_filter_le _ as)) (as.filter fun b => !b == a) rfl
      refine ⟨(h1.trans List.filter_sublist).cons_cons a, List.nodup_cons.mpr ⟨fun hm => ?_, h2⟩⟩
      simpa using List.of_mem_filter (h1.subset hm)

theorem List.idxOf?_some_getElem {l : List γ} {x : γ} {i : Nat} (h : l.idxOf? x = some i) : ∃ h : i < l.length, l[i] = x :=
  let ⟨a, b, _⟩ := List.idxOf?_eq_some_iff.mp h; ⟨a, b⟩

theorem nodup_of_eraseDups_length_eq (l : List γ) (h : l.eraseDups.length = l.length) : l.Nodup :=
  (List.eraseDups_sublist_nodup l).1.eq_of_length h ▸ (List.eraseDups_sublist_nodup l).2

end



theorem forall₂_mem_right {β γ : Type} {R : β → γ → Prop} {l : List β} {r : List γ} (h : List.Forall₂ R l r) :
    ∀ y ∈ r, ∃ x ∈ l, R x y := by
  induction h with
  | nil => simp
  | cons hab _ ih =>
    intro y hy
    rcases List.mem_cons.mp hy with rfl | hy
    · exact ⟨_, by simp, hab⟩
    · obtain ⟨x, hx, hr⟩ := ih y hy
      exact ⟨x, by simp [hx], hr⟩

theorem forall₂_pairwise {β γ : Type} {R : β → γ → Prop} {P : β → β → Prop} {Q : γ → γ → Prop} {l : List β} {r : List γ}
    (h : List.Forall₂ R l r) (hp : l.Pairwise P) (hq : ∀ a b x y, R a x → R b y → P a b → Q x y) : r.Pairwise Q := by
  induction h with
  | nil => exact List.Pairwise.nil
  | cons hab hrest ih =>
    rw [List.pairwise_cons] at hp ⊢
    refine ⟨?_, ih hp.2⟩
    intro y hy
    obtain ⟨x, hx, hr⟩ := forall₂_mem_right hrest y hy
    exact hq _ _ _ _ hab hr (hp.1 x hx)

theorem forall₂_right {β γ : Type} (Q : γ → Prop) (l : List β) (r : List γ) (h : List.Forall₂ (fun _ y => Q y) l r) : ∀ y ∈ r, Q y :=
  fun y hy => (forall₂_mem_right h y hy).elim fun _ hx => hx.2

theorem forall₂_getElem? {β γ : Type} {R : β → γ → Prop} {l : List β} {r : List γ} (h : List.Forall₂ R l r) {i : Nat} {a : β} {b : γ}
    (ha : l[i]? = some a) (hb : r[i]? = some b) : R a b := by
  induction h generalizing i with
  | nil => simp at ha
  | cons hab _ ih =>
    cases i with
    | zero => simp only [List.getElem?_cons_zero, Option.some.injEq] at ha hb; subst ha hb; exact hab
    | succ i => exact ih (by simpa using ha) (by simpa using hb)

/-- putting back the element that was left out -/
theorem forall₂_insert {β γ : Type} {R : β → γ → Prop} : ∀ (cols : List β) (l : List γ) (k : Nat) (x : γ) (hk : k < cols.length),
    List.Forall₂ R (cols.eraseIdx k) l → R cols[k] x → List.Forall₂ R cols (l.take k ++ [x] ++ l.drop k)
  | a :: cols, l, 0, x, _, h, hx => by simpa using List.Forall₂.cons hx h
  | a :: cols, _, k + 1, x, hk, .cons hab h, hx => by
    simpa using List.Forall₂.cons hab (forall₂_insert cols _ k x (by simpa using hk) h hx)
