import Props.C10
import SdxProofs.CellOrigin
import SdxModel.Convert
set_option linter.unusedSectionVars false
set_option linter.unusedVariables false
/-!
# What a successful run of the composed functions consists of

`materialize_tree`, `Synthesizer.__init__` and the two `sample()` compositions, each read backwards: a successful result fixes the
successful results of the stages it was composed from. On top of that, for the trees of a forest, the one statement every
cell-wise property of a microtable is derived from (`materializeTree_cells`).
-/

section
variable {α : Type} [Add α] [Sub α] [Mul α] [Div α] [LT α] [LE α] [BEq α]
  [DecidableLT α] [DecidableLE α] [ScalarOps α] [Inhabited α]

/-- `analyze_tree` keeps every convertor, filling in the safe values of a string convertor from the column's own tree -/
theorem analyzeConvertors_getD (E : Env α) (F : Forest α) (convs : List (Conv α)) (j : Nat) :
    (analyzeConvertors E F convs).getD j .bool =
      match convs.getD j .bool with
      | .string vm _ => .string vm (match F.tree? E 8 [j] with | some t => analyzeTree E F.ctx 100000 t | none => [])
      | other => other := by
  unfold analyzeConvertors
  rw [List.getD_eq_getElem?_getD, List.getD_eq_getElem?_getD, List.getElem?_map]
  by_cases hj : j < convs.length
  · have hz : (List.zip (List.range convs.length) convs)[j]? = some (j, convs[j]) := by simp [hj]
    rw [hz, List.getElem?_eq_getElem hj]
    simp only [Option.map_some, Option.getD_some]
    cases convs[j] with
    | string vm safe => cases F.tree? E 8 [j] <;> rfl
    | _ => rfl
  · rw [List.getElem?_eq_none (by simpa using hj), List.getElem?_eq_none (by simpa using hj)]
    rfl

theorem materializeTree_ok {E : Env α} {F : Forest α} {convs : List (Conv α)} {comb : List Nat} {hstream : List Nat}
    {mstream : List (Draw α)} {rows : List (List (Cell α × α))} {drawn left : Nat}
    (h : materializeTree E F convs comb hstream mstream = .ok (rows, drawn, left)) :
    ∃ t bs rest, F.tree? E 8 comb = some t ∧ harvest E F.ctx t hstream = .ok (bs, drawn) ∧
      (generateMicrodata E (comb.map fun j => (analyzeConvertors E F convs).getD j .bool)
        (comb.map fun j => F.nullMaps.getD j (ofInt 0)) bs).run mstream = .ok (rows, rest) := by
  unfold materializeTree at h
  split at h
  · cases h
  · rename_i t ht
    split at h
    · cases h
    · rename_i bs drawn' hh
      simp only at h
      split at h
      · cases h
      · rename_i rows' rest hm
        cases h
        exact ⟨t, bs, rest, ht, hh, hm⟩

theorem forestOfTable_ok {E : Env α} {cols : List (RawCol α)} {nrows : Nat} {names : List String} {pids : Array (List UInt64)}
    {ap : AnonParams α} {bp : BucketParams} {kind : CounterKind} {convs : List (Conv α)} {F : Forest α}
    (h : forestOfTable E cols nrows names pids ap bp kind = .ok (convs, F)) :
    convs = (fitTable E cols nrows).1 ∧
      Forest.init E { names, raw := (fitTable E cols nrows).2, pids, ap, bp, kind } = .ok F := by
  unfold forestOfTable at h
  split at h
  · rename_i F' hinit
    cases h
    exact ⟨rfl, hinit⟩
  · cases h

theorem synthesizeSingle_ok {E : Env α} {cols : List (RawCol α)} {nrows : Nat} {names : List String} {pids : Array (List UInt64)}
    {ap : AnonParams α} {bp : BucketParams} {kind : CounterKind} {hstream : List Nat} {mstream : List (Draw α)}
    {res : List (List (Cell α × α)) × Nat × Nat}
    (h : synthesizeSingle E cols nrows names pids ap bp kind hstream mstream = .ok res) :
    ∃ F, Forest.init E { names, raw := (fitTable E cols nrows).2, pids, ap, bp, kind } = .ok F ∧
      materializeTree E F (fitTable E cols nrows).1 (List.range cols.length) hstream mstream = .ok res := by
  unfold synthesizeSingle at h
  split at h
  · cases h
  · rename_i convs F hF
    obtain ⟨rfl, hinit⟩ := forestOfTable_ok hF
    exact ⟨F, hinit, h⟩

theorem synthesizePlan_ok {E : Env α} {cols : List (RawCol α)} {nrows : Nat} {names : List String} {pids : Array (List UInt64)}
    {ap : AnonParams α} {bp : BucketParams} {kind : CounterKind} {isIntegral : List Bool} {entropy : List α} {threshRel : α}
    {cl : Clusters} {streams : List (List Nat × List (Draw α))} {s s' : List (Draw α)} {res : MTable (Cell α) α}
    (h : (synthesizePlan E cols nrows names pids ap bp kind isIntegral entropy threshRel cl streams).run s = .ok (res, s')) :
    ∃ F, Forest.init E { names, raw := (fitTable E cols nrows).2, pids, ap, bp, kind } = .ok F ∧
      (buildTable E F (fitTable E cols nrows).1 isIntegral entropy threshRel cl streams).run s = .ok (res, s') := by
  unfold synthesizePlan at h
  split at h
  · cases h
  · rename_i convs F hF
    obtain ⟨rfl, hinit⟩ := forestOfTable_ok hF
    exact ⟨F, hinit, h⟩

end

section
variable {α : Type} [Field α] [LinearOrder α] [IsStrictOrderedRing α] [FloorRing α] [Inhabited α]

/-- **the cells of a microtable.**  Whatever `materialize_tree` returns for a column combination of a forest: every row has one cell
per column of the combination and comes from one bucket of the harvest of the combination's tree, the cell in place `k` decoded by
`_generate` from the bucket's range in place `k` with the convertor and the null stand-in of column `comb[k]`. -/
theorem materializeTree_cells (E : Env α) (inp : ForestIn α) (F : Forest α) (hinit : Forest.init E inp = .ok F)
    (hn : 0 < inp.raw.size) (hlt : 0 ≤ F.ctx.ap.supp.lt) (convs : List (Conv α)) (comb : List Nat) (hk : 1 ≤ comb.length)
    (hstream : List Nat) (mstream : List (Draw α)) (rows : List (List (Cell α × α))) (drawn left : Nat)
    (h : materializeTree E F convs comb hstream mstream = .ok (rows, drawn, left)) :
    ∃ t bs, F.tree? E 8 comb = some t ∧ harvest E F.ctx t hstream = .ok (bs, drawn) ∧
      ∀ row ∈ rows, row.length = comb.length ∧ ∃ b ∈ bs, b.ivs.length = comb.length ∧
        ∀ (k : Nat) (hk : k < comb.length), CellFrom E (b.ivs.getD k default, (analyzeConvertors E F convs).getD comb[k] .bool,
          F.nullMaps.getD comb[k] (ofInt 0)) (row.getD k default) := by
  obtain ⟨t, bs, rest, ht, hh, hm⟩ := materializeTree_ok h
  refine ⟨t, bs, ht, hh, fun row hrow => ?_⟩
  obtain ⟨b, hb, hfor⟩ := microdata_cells E _ _ bs mstream rest rows hm row hrow
  obtain ⟨hc, _, hsh⟩ := (C18_forest_tree E inp F hinit hn 8 comb t hk ht).1
  have hbl : b.ivs.length = comb.length := hc ▸ (C10_bucket_ranges E F.ctx hlt t hsh hstream bs drawn hh b hb).1
  have hlen : row.length = comb.length := by rw [← hfor.length_eq]; simp [hbl]
  refine ⟨hlen, b, hb, hbl, fun k hk' => ?_⟩
  have := (List.forall₂_iff_get.mp hfor).2 k (by simp [hbl, hk']) (hlen ▸ hk')
  simpa [List.getD_eq_getElem?_getD, hbl, hlen, hk'] using this

end
