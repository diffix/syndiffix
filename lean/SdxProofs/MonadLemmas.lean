import SdxModel.Microdata
import SdxProofs.ListLemmas
/-!
Running the model's state-and-error monads (`GM α`, `HM α`: both `StateT σ (Except String)`).

A success hypothesis `h : x.run s = .ok (r, s')` is taken apart step by step: `StateT_bind_ok h` at a bind,
`StateT_pure_ok h` at a `pure`, `split` / `split_ifs at h` at a branch; where the computation throws, or is a `get`, `set` or `pure`
of known values, `h` computes to an equation between constructors and `cases h` decides it (this costs a fraction of a `simp`
that unfolds the monad). For a goal about `run`, `simp` has `StateT.run_bind`, `run_pure`, `run_get`, `run_set`, `run_throw`
from core and Batteries and the four `Except` equations below. `mapM` and `foldlM` have one invariant rule each, and the
recorded-draw primitives their specifications.
-/

section
variable {σ ε β γ : Type}

@[simp] theorem Except.ok_bind (a : β) (f : β → Except ε γ) : (Except.ok a >>= f) = f a := rfl
@[simp] theorem Except.error_bind (e : ε) (f : β → Except ε γ) : (Except.error e >>= f) = .error e := rfl
@[simp] theorem Except.pure_eq_ok (a : β) : (pure a : Except ε β) = .ok a := rfl
@[simp] theorem Except.throw_eq_error (e : ε) : (throw e : Except ε β) = .error e := rfl

/-- a successful bind decomposes into two successful steps -/
theorem StateT_bind_ok {x : StateT σ (Except ε) β} {f : β → StateT σ (Except ε) γ} {s s' : σ} {c : γ}
    (h : (x >>= f).run s = .ok (c, s')) : ∃ a s1, x.run s = .ok (a, s1) ∧ (f a).run s1 = .ok (c, s') := by
  rw [StateT.run_bind] at h
  cases hx : x.run s with
  | error e => simp [hx] at h
  | ok p => exact ⟨p.1, p.2, rfl, by simpa [hx] using h⟩

theorem StateT_pure_ok {a b : β} {s s' : σ} (h : (pure a : StateT σ (Except ε) β).run s = .ok (b, s')) :
    a = b ∧ s = s' := by
  simpa using h

/-- Through a successful `mapM`: a state invariant `I`, a reflexive and transitive relation `Rel` between the states before and
after, and for each input and its result a property `Q` that may speak of the state and survives `Rel`-later states. -/
theorem mapM_inv (f : β → StateT σ (Except ε) γ) (I : σ → Prop) (Rel : σ → σ → Prop)
    (Q : β → γ → σ → Prop) (hrefl : ∀ s, Rel s s) (htrans : ∀ s1 s2 s3, Rel s1 s2 → Rel s2 s3 → Rel s1 s3)
    (hmono : ∀ b y s s', Q b y s → Rel s s' → Q b y s') :
    ∀ (l : List β), (∀ b ∈ l, ∀ s y s', I s → (f b).run s = .ok (y, s') → I s' ∧ Rel s s' ∧ Q b y s') →
      ∀ s ys s', I s → (l.mapM f).run s = .ok (ys, s') →
        I s' ∧ Rel s s' ∧ List.Forall₂ (fun b y => Q b y s') l ys := by
  intro l
  induction l with
  | nil =>
    intro _ s ys s' hI h
    rw [List.mapM_nil] at h
    obtain ⟨rfl, rfl⟩ := StateT_pure_ok h
    exact ⟨hI, hrefl _, List.Forall₂.nil⟩
  | cons a l ih =>
    intro hstep s ys s' hI h
    rw [List.mapM_cons] at h
    obtain ⟨y, s1, h1, h⟩ := StateT_bind_ok h
    obtain ⟨ys', s2, h2, h⟩ := StateT_bind_ok h
    obtain ⟨rfl, rfl⟩ := StateT_pure_ok h
    obtain ⟨hI1, hr1, hq1⟩ := hstep a (by simp) s y s1 hI h1
    obtain ⟨hI2, hr2, hq2⟩ := ih (fun b hb => hstep b (by simp [hb])) s1 ys' s2 hI1 h2
    exact ⟨hI2, htrans _ _ _ hr1 hr2, List.Forall₂.cons (hmono _ _ _ _ hq1 hr2) hq2⟩

/-- what holds of every single successful step holds pairwise of a successful `mapM` -/
theorem mapM_forall₂_of_ok (f : β → StateT σ (Except ε) γ) (P : β → γ → Prop) (l : List β)
    (hP : ∀ x ∈ l, ∀ s y s1, (f x).run s = .ok (y, s1) → P x y) (s : σ) (r : List γ) (s' : σ)
    (h : (l.mapM f).run s = .ok (r, s')) : List.Forall₂ P l r :=
  (mapM_inv f (fun _ => True) (fun _ _ => True) (fun b y _ => P b y) (fun _ => trivial) (fun _ _ _ _ _ => trivial)
    (fun _ _ _ _ hq _ => hq) l (fun b hb s y s1 _ hr => ⟨trivial, trivial, hP b hb s y s1 hr⟩) s r s' trivial h).2.2

/-- a successful `mapM` returns one result per input -/
theorem mapM_length_of_ok (f : β → StateT σ (Except ε) γ) (l : List β) (s : σ) (r : List γ) (s' : σ)
    (h : (l.mapM f).run s = .ok (r, s')) : r.length = l.length :=
  (mapM_forall₂_of_ok f (fun _ _ => True) l (fun _ _ _ _ _ _ => trivial) s r s' h).length_eq.symm

/-- Through a successful `foldlM`: `I done acc` speaks of the accumulator and of the inputs folded in so far. -/
theorem foldlM_inv (f : γ → β → StateT σ (Except ε) γ) (I : List β → γ → Prop) :
    ∀ (l done : List β) (a : γ) (s : σ) (r : γ) (s' : σ),
      (∀ x ∈ l, ∀ d a s a' s1, I d a → (f a x).run s = .ok (a', s1) → I (d ++ [x]) a') →
      I done a → (l.foldlM f a).run s = .ok (r, s') → I (done ++ l) r := by
  intro l
  induction l with
  | nil =>
    intro done a s r s' _ hI h
    rw [List.foldlM_nil] at h
    obtain ⟨rfl, _⟩ := StateT_pure_ok h
    simpa using hI
  | cons x xs ih =>
    intro done a s r s' hstep hI h
    rw [List.foldlM_cons] at h
    obtain ⟨a1, s1, h1, h⟩ := StateT_bind_ok h
    have := ih (done ++ [x]) a1 s1 r s' (fun y hy => hstep y (by simp [hy]))
      (hstep x (by simp) done a s a1 s1 hI h1) h
    simpa using this

end

/-! ### the recorded draws -/

section
variable {α : Type}

/-- a successful `random()` replay consumes one recorded draw -/
theorem drawUnit_ok (s s' : List (Draw α)) (u : α) (h : (drawUnit (α := α)).run s = .ok (u, s')) : s = .unit u :: s' := by
  unfold drawUnit at h
  obtain ⟨_, _, hg, h⟩ := StateT_bind_ok h
  cases hg
  split at h <;> cases h
  rfl

/-- a successful `randint` replay returns a value inside the requested bounds and consumes one recorded draw -/
theorem drawInt_ok (lo hi : Int) (s s' : List (Draw α)) (v : Nat) (h : (drawInt (α := α) lo hi).run s = .ok (v, s')) :
    lo ≤ (v : Int) ∧ (v : Int) ≤ hi ∧ s = .int v :: s' := by
  unfold drawInt at h
  split_ifs at h with hlt
  · cases h
  · obtain ⟨_, _, hg, h⟩ := StateT_bind_ok h
    cases hg
    split at h
    · split_ifs at h with hb
      · cases h
      · cases h
        simp only [Bool.or_eq_true, decide_eq_true_eq, not_or, Int.not_lt] at hb
        exact ⟨hb.1, hb.2, rfl⟩
    · cases h
    · cases h

/-- a replayed shuffle is a permutation -/
theorem drawShuffle_ok {γ : Type} [Inhabited γ] (x r : List γ) (s s' : List (Draw α))
    (h : (drawShuffle (α := α) x).run s = .ok (r, s')) : r.Perm x := by
  unfold drawShuffle at h
  obtain ⟨_, _, hg, h⟩ := StateT_bind_ok h
  cases hg
  split at h
  · rename_i p rest
    split_ifs at h with hp
    · cases h
    · cases h
      have hm := (List.isPerm_iff.mp (by simpa using hp)).map (fun i => x.getD i default)
      have hx : (List.range x.length).map (fun i => x.getD i default) = x :=
        List.ext_getElem (by simp) (fun i h1 _ => by simp at h1; simp [h1])
      rwa [hx] at hm
  · cases h
  · cases h

end

/-! ### `generate_microdata` -/

section
variable {α : Type} [Add α] [Sub α] [Mul α] [Div α] [LT α] [LE α] [BEq α]
  [DecidableLT α] [DecidableLE α] [ScalarOps α] [Inhabited α]

/-- a successful `generate_microdata`: bucket by bucket, `count` rows each, every row one successful `generateRow` on the bucket's ranges -/
theorem generateMicrodata_ok (E : Env α) (convs : List (Conv α)) (nullMaps : List α) (buckets : List (BCell α))
    (stream rest : List (Draw α)) (rows : List (List (Cell α × α)))
    (h : (generateMicrodata E convs nullMaps buckets).run stream = .ok (rows, rest)) :
    ∃ rs, rows = rs.flatten ∧ List.Forall₂ (fun b r => r.length = b.count.toNat ∧
      ∀ row ∈ r, ∃ s s', (generateRow E convs nullMaps b.ivs).run s = .ok (row, s')) buckets rs := by
  unfold generateMicrodata at h
  obtain ⟨rs, s1, hm, h⟩ := StateT_bind_ok h
  refine ⟨rs, (StateT_pure_ok h).1.symm, mapM_forall₂_of_ok _ _ buckets (fun b _ s r s' hb => ?_) stream rs s1 hm⟩
  have hr := mapM_forall₂_of_ok (fun (_ : Unit) => generateRow E convs nullMaps b.ivs)
    (fun _ row => ∃ s s', (generateRow E convs nullMaps b.ivs).run s = .ok (row, s')) _ (fun _ _ s row s' h => ⟨s, s', h⟩) s r s' hb
  exact ⟨by simpa using hr.length_eq.symm, forall₂_right _ _ _ hr⟩

end

/-- a successful `mapM` in `Except`: every element succeeded, results in order -/
theorem mapM_except_ok {ε β γ : Type} (f : β → Except ε γ) :
    ∀ (l : List β) (r : List γ), l.mapM f = .ok r → List.Forall₂ (fun a b => f a = .ok b) l r := by
  intro l
  induction l with
  | nil => intro r h; simp [pure, Except.pure] at h; subst h; exact List.Forall₂.nil
  | cons a l ih =>
    intro r h
    rw [List.mapM_cons] at h
    cases hfa : f a with
    | error e => simp [hfa, bind, Except.bind] at h
    | ok b =>
      cases hl : l.mapM f with
      | error e => simp [hfa, hl, bind, Except.bind] at h
      | ok bs =>
        simp [hfa, hl, bind, Except.bind, pure, Except.pure] at h
        subst h
        exact List.Forall₂.cons hfa (ih bs hl)

/-- the same in `Option` -/
theorem mapM_option_some {β γ : Type} (f : β → Option γ) :
    ∀ (l : List β) (r : List γ), l.mapM f = some r → List.Forall₂ (fun a b => f a = some b) l r := by
  intro l
  induction l with
  | nil => intro r h; simp at h; subst h; exact List.Forall₂.nil
  | cons a l ih =>
    intro r h
    rw [List.mapM_cons] at h
    simp only [Option.bind_eq_bind, Option.pure_def, Option.bind_eq_some_iff, Option.some.injEq] at h
    obtain ⟨b, hb, bs, hbs, rfl⟩ := h
    exact List.Forall₂.cons hb (ih bs hbs)
