import SdxModel.Microdata
/-!
The mask prefix of a string range: strings are ordered by code points (Python `str` comparison, `sorted(set(values))`);
the common prefix of the first and the last string of a range of the sorted value map is a prefix of every string in
between. Stated with core Lean's lexicographic order on `List Char` (no Mathlib import here, so that the order instance
is the core one).
-/

theorem commonPrefix_between : ∀ (a x b : List Char), a ≤ x → x ≤ b → commonPrefix a b <+: x := by
  intro a
  induction a with
  | nil => intro x b _ _; simp [commonPrefix]
  | cons ca as ih =>
    intro x b h1 h2
    cases b with
    | nil => simp [commonPrefix]
    | cons cb bs =>
      cases x with
      | nil => simp at h1
      | cons cx xs =>
        rw [List.cons_le_cons_iff] at h1 h2
        unfold commonPrefix
        by_cases hab : ca = cb
        · subst hab
          simp only [beq_self_eq_true, if_true]
          rcases h1 with h1 | ⟨rfl, h1⟩
          · rcases h2 with h2 | ⟨rfl, h2⟩
            · exact absurd (Char.lt_trans h1 h2) (Char.lt_irrefl _)
            · exact absurd h1 (Char.lt_irrefl _)
          · rcases h2 with h2 | ⟨_, h2⟩
            · exact absurd h2 (Char.lt_irrefl _)
            · simpa using ih xs bs h1 h2
        · have : (ca == cb) = false := by simpa using hab
          simp [this]

/-- the value map of a string column: `sorted(set(values))`, i.e. increasing by code points -/
def SortedStrings (vm : List String) : Prop := (vm.map String.toList).Pairwise (· ≤ ·)

/-- in a sorted value map, entries at increasing positions increase -/
theorem SortedStrings.le {vm : List String} (hs : SortedStrings vm) {i k : Nat} {a x : String} (hik : i ≤ k)
    (ha : vm[i]? = some a) (hx : vm[k]? = some x) : a.toList ≤ x.toList := by
  obtain ⟨hi, rfl⟩ := List.getElem?_eq_some_iff.mp ha
  obtain ⟨hk, rfl⟩ := List.getElem?_eq_some_iff.mp hx
  rcases Nat.lt_or_eq_of_le hik with h | rfl
  · exact List.pairwise_iff_getElem.mp (List.pairwise_map.mp hs) i k hi hk h
  · exact List.le_refl _

/-- the mask prefix built from the first and last string of an index range is a prefix of every string of that range -/
theorem mask_prefix_covers (vm : List String) (hs : SortedStrings vm) (i k j : Nat) (a x b : String)
    (hik : i ≤ k) (hkj : k ≤ j) (ha : vm[i]? = some a) (hx : vm[k]? = some x) (hb : vm[j]? = some b) :
    commonPrefix a.toList b.toList <+: x.toList :=
  commonPrefix_between _ _ _ (hs.le hik ha hx) (hs.le hkj hx hb)
