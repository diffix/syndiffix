import SdxProofs.TreeInv
import Mathlib.Tactic.IntervalCases
set_option linter.unusedSectionVars false
set_option linter.unusedVariables false
/-!
# The 1-dim root push-down and outlier folding

`TInvO E c root out t`: the tree invariant with a set `out` of folded rows that are exempt from the clauses about
values (containment, tight range, routing) but still counted (entity counter, rows held).
-/

section
variable {α : Type} [Field α] [LinearOrder α] [IsStrictOrderedRing α] [FloorRing α] [Inhabited α]

/-- the rows of `all` that were not folded in as outliers -/
def inRows (out all : List Nat) : List Nat := all.filter (fun r => !out.contains r)

theorem mem_inRows {out all : List Nat} {x : Nat} : x ∈ inRows out all ↔ x ∈ all ∧ x ∉ out := by
  simp [inRows]

structure NodeOKO (E : Env α) (c : FCtx α) (root : List (Ival α)) (out : List Nat) (d : NodeData α)
    (subs : List (Option (Node α))) (all : List Nat) : Prop where
  lenS : d.snapped.length = d.comb.length
  lenA : d.actual.length = d.comb.length
  nonempty : inRows out all ≠ []
  inside : ∀ r ∈ inRows out all, RowInside c root d r
  hull : ∀ j < d.comb.length, HullOf (d.actual.getD j default) ((inRows out all).map fun r => c.value r (d.comb.getD j 0))
  stub : d.isStub = stubFlag E c subs
  counter : ∃ hist : List Nat, hist.Perm all ∧ d.counter = c.kind.newEntity.addMany (hist.map c.pidRow)
  subsOK : SubsOK d.comb d.snapped subs

structure BranchOKO (E : Env α) (c : FCtx α) (out : List Nat) (d : NodeData α) (subs : List (Option (Node α)))
    (ch : List (Nat × Node α)) (all : List Nat) : Prop where
  keys : (ch.map (·.1)).Nodup
  child : ∀ p ∈ ch, p.2.data.comb = d.comb ∧ p.2.data.path = d.path ++ [p.1] ∧ p.2.data.baseSeed = d.baseSeed ∧
    p.2.data.snapped = childRanges d p.1
  route : ∀ p ∈ ch, ∀ r ∈ inRows out p.2.allRows, childIndex d.snapped (c.vals d.comb r) = p.1
  notStub : d.isStub = false
  notSing : d.actual.all Ival.isSing = false
  licence : ∃ h0 : List Nat, h0.Subperm all ∧
    (c.kind.newEntity.addMany (h0.map c.pidRow)).isLowCount E c.ap.salt c.ap.supp = false

inductive TInvO (E : Env α) (c : FCtx α) (root : List (Ival α)) (out : List Nat) : Node α → Prop
  | leaf (d : NodeData α) (subs : List (Option (Node α))) (rows : List Nat) :
      NodeOKO E c root out d subs rows → TInvO E c root out (.leaf d subs rows)
  | branch (d : NodeData α) (subs : List (Option (Node α))) (ch : List (Nat × Node α)) :
      NodeOKO E c root out d subs (Node.allRows (.branch d subs ch)) →
      BranchOKO E c out d subs ch (Node.allRows (.branch d subs ch)) →
      (∀ p ∈ ch, TInvO E c root out p.2) → TInvO E c root out (.branch d subs ch)

theorem inRows_congr {out out' all : List Nat} (h : ∀ r ∈ all, (r ∈ out' ↔ r ∈ out)) : inRows out' all = inRows out all := by
  unfold inRows
  apply List.filter_congr
  intro x hx
  have := h x hx
  by_cases h1 : x ∈ out <;> simp [h1, this.mpr, this]

theorem inRows_nil (all : List Nat) : inRows [] all = all := by simp [inRows]

theorem NodeOKO.congr {E : Env α} {c : FCtx α} {root : List (Ival α)} {out out' : List Nat} {d : NodeData α}
    {subs : List (Option (Node α))} {all : List Nat} (h : NodeOKO E c root out d subs all)
    (he : ∀ r ∈ all, (r ∈ out' ↔ r ∈ out)) : NodeOKO E c root out' d subs all := by
  have e := inRows_congr he
  exact ⟨h.lenS, h.lenA, by rw [e]; exact h.nonempty, by rw [e]; exact h.inside, by rw [e]; exact h.hull, h.stub, h.counter, h.subsOK⟩

/-- changing the outlier set outside the rows a tree holds changes nothing -/
theorem TInvO.congr {E : Env α} {c : FCtx α} {root : List (Ival α)} {out out' : List Nat} {t : Node α}
    (h : TInvO E c root out t) (he : ∀ r ∈ t.allRows, (r ∈ out' ↔ r ∈ out)) : TInvO E c root out' t := by
  induction h with
  | leaf d subs rows hN => exact TInvO.leaf _ _ _ (hN.congr (by simpa [Node.allRows_leaf] using he))
  | branch d subs ch hN hB hC ih =>
    refine TInvO.branch _ _ _ (hN.congr he) ⟨hB.keys, hB.child, ?_, hB.notStub, hB.notSing, hB.licence⟩ ?_
    · intro p hp r hr
      have e := inRows_congr (out := out) (out' := out') (all := p.2.allRows)
        (fun r hr => he r (mem_allRows_of_child d subs ch p hp r hr))
      rw [e] at hr
      exact hB.route p hp r hr
    · intro p hp
      exact ih p hp (fun r hr => he r (mem_allRows_of_child d subs ch p hp r hr))

/-- a tree without outliers -/
theorem TInvO.ofTInv {E : Env α} {c : FCtx α} {root : List (Ival α)} {t : Node α} (h : TInv E c root t) :
    TInvO E c root [] t := by
  have toO : ∀ {d : NodeData α} {subs : List (Option (Node α))} {all : List Nat},
      NodeOK E c root d subs all ([] ++ all) → NodeOKO E c root [] d subs all := fun {d subs all} hN =>
    ⟨hN.lenS, hN.lenA, (inRows_nil all).symm ▸ hN.nonempty, (inRows_nil all).symm ▸ hN.inside,
      (inRows_nil all).symm ▸ hN.hull, hN.stub, hN.counter, hN.subsOK⟩
  unfold TInv at h
  generalize hex : ([] : List Nat) = ex at h
  induction h with
  | leaf extra d subs rows hN => subst hex; exact TInvO.leaf _ _ _ (toO hN)
  | branch extra d subs ch hN hB hC ih =>
    subst hex
    exact TInvO.branch _ _ _ (toO hN)
      ⟨hB.keys, hB.child, fun p hp r hr => hB.route p hp r (by rwa [inRows_nil] at hr), hB.notStub, hB.notSing, hB.licence⟩
      (fun p hp => ih p hp rfl)

/-- what the invariant says about the node itself -/
theorem TInvO.nodeOK {E : Env α} {c : FCtx α} {root : List (Ival α)} {out : List Nat} {t : Node α}
    (h : TInvO E c root out t) : NodeOKO E c root out t.data t.subnodes t.allRows := by
  cases h with
  | leaf d subs rows hN => rw [Node.allRows_leaf]; exact hN
  | branch d subs ch hN _ _ => exact hN

theorem mem_inRows_fold {out all all' : List Nat} {row : Nat} (hp : all'.Perm (all ++ [row])) (hr : row ∈ out) (x : Nat) :
    x ∈ inRows out all' ↔ x ∈ inRows out all := by
  rw [mem_inRows, mem_inRows, hp.mem_iff]
  simp only [List.mem_append, List.mem_singleton]
  constructor
  · rintro ⟨h1 | h1, h2⟩
    · exact ⟨h1, h2⟩
    · subst h1; exact absurd hr h2
  · rintro ⟨h1, h2⟩; exact ⟨Or.inl h1, h2⟩

/-- folding an outlier row into a node's data: only the entity counter changes -/
theorem NodeOKO.fold {E : Env α} {c : FCtx α} {root : List (Ival α)} {out : List Nat} {d : NodeData α}
    {subs : List (Option (Node α))} {all all' : List Nat} (row : Nat) (h : NodeOKO E c root out d subs all)
    (hp : all'.Perm (all ++ [row])) (hr : row ∈ out) :
    NodeOKO E c root out { d with counter := d.counter.add (c.pidRow row) } subs all' := by
  have hm := mem_inRows_fold hp hr
  refine ⟨h.lenS, h.lenA, ?_, ?_, ?_, h.stub, ?_, h.subsOK⟩
  · obtain ⟨x, hx⟩ := List.exists_mem_of_ne_nil _ h.nonempty
    exact List.ne_nil_of_mem ((hm x).mpr hx)
  · intro r hr'; exact h.inside r ((hm r).mp hr')
  · intro j hj
    refine (h.hull j hj).congr ?_
    intro x
    simp only [List.mem_map]
    constructor
    · rintro ⟨r, hr', rfl⟩; exact ⟨r, (hm r).mp hr', rfl⟩
    · rintro ⟨r, hr', rfl⟩; exact ⟨r, (hm r).mpr hr', rfl⟩
  · obtain ⟨hist, hperm, hc⟩ := h.counter
    refine ⟨hist ++ [row], (hperm.append_right [row]).trans hp.symm, ?_⟩
    simp [hc, ECounter.addMany, List.foldl_append]

/-- `_add_1dim_outlier_row` keeps the invariant (the row being one of the exempt ones), adds exactly that row, and
changes no range. -/
theorem addOutlier_inv (E : Env α) (c : FCtx α) (root : List (Ival α)) (out : List Nat) (fuel : Nat) (t : Node α)
    (row : Nat) (t' : Node α) (hT : TInvO E c root out t) (hr : row ∈ out) (h : addOutlier c fuel t row = some t') :
    TInvO E c root out t' ∧ t'.allRows.Perm (t.allRows ++ [row]) ∧ SameId t t' ∧ t'.data.actual = t.data.actual := by
  fun_induction addOutlier c fuel t row generalizing t' with
  | case1 => cases h
  | case2 =>
    cases h
    cases hT with
    | leaf _ _ _ hN =>
      exact ⟨TInvO.leaf _ _ _ (hN.fold _ (List.Perm.refl _) hr), by simp [Node.allRows_leaf], ⟨rfl, rfl, rfl, rfl, rfl⟩, rfl⟩
  | case3 => cases h
  | case4 fuel d subs ch row q0 hf IH =>
    obtain ⟨ch', hm, rfl⟩ := Option.map_eq_some_iff.mp h
    cases hT with
    | branch _ _ _ hN hB hC =>
    obtain ⟨pre, q, post, n', rfl, hqi, hfq, rfl⟩ := mapM_update_spec (fun n => addOutlier c fuel n row) _ hB.keys hf hm
    have hchild := hB.child; have hroute := hB.route
    simp only [List.forall_mem_append, List.forall_mem_cons] at hchild hroute hC
    obtain ⟨hTn, hpn, hidn, _⟩ := IH q n' hC.2.1 hr hfq
    have hperm := allRows_replace pre post q d { d with counter := d.counter.add (c.pidRow row) } subs hpn
    obtain ⟨h0, hs0, hl0⟩ := hB.licence
    refine ⟨TInvO.branch _ _ _ (hN.fold row hperm hr) ⟨by simpa using hB.keys, ?_, ?_, hB.notStub, hB.notSing,
      h0, hs0.trans ((List.sublist_append_left _ [row]).subperm.trans hperm.symm.subperm), hl0⟩ ?_,
      hperm, ⟨rfl, rfl, rfl, rfl, rfl⟩, rfl⟩
    · simp only [List.forall_mem_append, List.forall_mem_cons]
      exact ⟨hchild.1, hidn.child hchild.2.1, hchild.2.2⟩
    · simp only [List.forall_mem_append, List.forall_mem_cons]
      exact ⟨hroute.1, fun r hr' => hroute.2.1 r ((mem_inRows_fold hpn hr r).mp hr'), hroute.2.2⟩
    · simp only [List.forall_mem_append, List.forall_mem_cons]
      exact ⟨hC.1, hTn, hC.2.2⟩

/-- folding a list of outlier rows -/
theorem foldOutliers_inv (E : Env α) (c : FCtx α) (root : List (Ival α)) (out : List Nat) (fuel : Nat)
    (l : List Nat) (t t' : Node α) (hT : TInvO E c root out t) (hl : ∀ r ∈ l, r ∈ out)
    (h : l.foldlM (fun t r => addOutlier c fuel t r) t = some t') :
    TInvO E c root out t' ∧ t'.allRows.Perm (t.allRows ++ l) ∧ SameId t t' := by
  have := foldlM_some_inv _
    (fun rest b => TInvO E c root out b ∧ (∀ r ∈ rest, r ∈ out) ∧ (b.allRows ++ rest).Perm (t.allRows ++ l) ∧ SameId t b)
    (fun r rest b b1 ⟨hTb, hrs, hpb, hidb⟩ h1 => by
      obtain ⟨hT1, hp1, hid1, _⟩ := addOutlier_inv E c root out fuel b r b1 hTb (hrs r List.mem_cons_self) h1
      exact ⟨hT1, fun r' hr' => hrs r' (List.mem_cons_of_mem _ hr'),
        ((hp1.append_right rest).trans (by simp)).trans hpb, hidb.trans hid1⟩)
    l t t' ⟨hT, hl, List.Perm.refl _, SameId.refl t⟩ h
  exact ⟨this.1, by simpa using this.2.2.1, this.2.2.2⟩

/-- the rows below an optional child -/
def rowsOf : Option (Node α) → List Nat
  | none => []
  | some n => n.allRows

/-- a 1-dim branch has at most the children `0` and `1` -/
theorem children_two_keys (ch : List (Nat × Node α)) (hk : (ch.map (·.1)).Nodup) (h2 : ∀ p ∈ ch, p.1 < 2) :
    ((ch.map fun p => p.2.allRows).flatten).Perm (rowsOf (lookupChild ch 0) ++ rowsOf (lookupChild ch 1)) := by
  have key : ∀ k, k < 2 → k = 0 ∨ k = 1 := fun k h => by omega
  match ch with
  | [] => simp [lookupChild, rowsOf]
  | [(ka, na)] =>
    rcases key ka (h2 (ka, na) (by simp)) with rfl | rfl <;> simp [lookupChild, rowsOf]
  | [(ka, na), (kb, nb)] =>
    have hne : ka ≠ kb := by simpa using hk
    rcases key ka (h2 (ka, na) (by simp)) with rfl | rfl <;> rcases key kb (h2 (kb, nb) (by simp)) with rfl | rfl
    · exact absurd rfl hne
    · simp [lookupChild, rowsOf]
    · simpa [lookupChild, rowsOf] using List.perm_append_comm
    · exact absurd rfl hne
  | (ka, na) :: (kb, nb) :: (kc, nc) :: rest =>
    exfalso
    have h1 := h2 (ka, na) (by simp)
    have h3 := h2 (kb, nb) (by simp)
    have h4 := h2 (kc, nc) (by simp)
    simp only [List.map_cons, List.nodup_cons, List.mem_cons, not_or] at hk
    simp only at h1 h3 h4
    omega

/-- `_get_low_count_rows_in_child`: the rows returned are the child's rows -/
theorem lowRows_some {E : Env α} {c : FCtx α} {ch : List (Nat × Node α)} {k : Nat} {rs : List Nat}
    (h : lowRows E c ch k = some rs) : rs = rowsOf (lookupChild ch k) := by
  unfold lowRows at h
  split at h
  · rename_i he; rw [he]; simpa [rowsOf] using h.symm
  · rename_i d s rows he
    rw [he]
    split_ifs at h
    simp only [Option.some.injEq] at h
    simp [rowsOf, Node.allRows_leaf, h]
  · cases h


/-- beyond a range, the way routing sees it: below the lower end, or at/above the upper end -/
def Outside (iv : Ival α) (v : α) : Prop := v < iv.lo ∨ iv.hi ≤ v
def NestedIn (a b : Ival α) : Prop := b.lo ≤ a.lo ∧ a.hi ≤ b.hi
def rootIv (t : Node α) : Ival α := t.data.snapped.getD 0 default

theorem one_dim_route (c : FCtx α) (d : NodeData α) (hS : d.snapped.length = d.comb.length) (h1 : d.comb.length = 1) (r : Nat) :
    childIndex d.snapped (c.vals d.comb r) = (d.snapped.getD 0 default).halfIndex (c.value r (d.comb.getD 0 0)) := by
  obtain ⟨col, hcol⟩ := List.length_eq_one_iff.mp h1
  obtain ⟨iv, hiv⟩ := List.length_eq_one_iff.mp (hS.trans h1)
  rw [hcol, hiv]
  simp [childIndex, FCtx.vals]

theorem one_dim_child_range (d : NodeData α) (hS : d.snapped.length = d.comb.length) (h1 : d.comb.length = 1) (k : Nat) :
    (childRanges d k).getD 0 default = (d.snapped.getD 0 default).half (k % 2) := by
  rw [childRanges_getD d k 0 hS (by omega), h1]
  simp

theorem half_nested (iv : Ival α) (h : iv.lo ≤ iv.hi) (k : Nat) :
    NestedIn (iv.half k) iv ∧ (iv.half k).lo ≤ (iv.half k).hi := by
  have hm := iv.middle_mem h
  unfold Ival.half NestedIn
  split_ifs
  · exact ⟨⟨le_refl _, hm.2.1⟩, hm.1⟩
  · exact ⟨⟨hm.1, le_refl _⟩, hm.2.1⟩

theorem Outside.mono {a b : Ival α} {v : α} (hn : NestedIn a b) (h : Outside b v) : Outside a v := by
  rcases h with h | h
  · exact Or.inl (lt_of_lt_of_le h hn.1)
  · exact Or.inr (le_trans hn.2 h)


theorem outside_other_half (iv : Ival α) (v : α) (k : Nat) (hk : k < 2) (hi : iv.halfIndex v = 1 - k) :
    Outside (iv.half k) v := by
  obtain rfl | rfl : k = 0 ∨ k = 1 := by omega
  · -- routed up, kept the lower half
    rcases iv.halfIndex_cases v with ⟨e, _⟩ | ⟨_, _, hm⟩
    · rw [e] at hi; cases hi
    · exact Or.inr hm
  · rcases iv.halfIndex_cases v with ⟨_, hs' | hm⟩ | ⟨e, _⟩
    · -- a single point: its upper half is the point, and every value is below it or not
      rw [Ival.half_one, Outside, Ival.middle_of_eq _ hs', hs']
      exact lt_or_ge v iv.hi
    · exact Or.inl hm
    · rw [e] at hi; cases hi

/-- one level of `push_down_1dim_root`: descend into the child under key `k`, fold the rows of the other child -/
theorem pushDown_step (E : Env α) (c : FCtx α) (root : List (Ival α)) (d : NodeData α) (subs : List (Option (Node α)))
    (ch : List (Nat × Node α)) (k : Nat) (hk : k < 2) (ck t1 t' : Node α) (out1 : List Nat) (F : Nat)
    (hT : TInv E c root (.branch d subs ch)) (h1 : d.comb.length = 1) (hnd : (Node.branch d subs ch).allRows.Nodup)
    (hord : (d.snapped.getD 0 default).lo ≤ (d.snapped.getD 0 default).hi)
    (hck : lookupChild ch k = some ck)
    (hT1 : TInvO E c root out1 t1) (hp1 : t1.allRows.Perm ck.allRows) (hc1 : t1.data.comb = ck.data.comb)
    (hn1 : NestedIn (rootIv t1) (rootIv ck)) (ho1 : (rootIv t1).lo ≤ (rootIv t1).hi)
    (hout1 : ∀ r ∈ out1, r ∈ t1.allRows ∧ Outside (rootIv t1) (c.value r (ck.data.comb.getD 0 0)))
    (hf : (rowsOf (lookupChild ch (1 - k))).foldlM (fun t r => addOutlier c F t r) t1 = some t') :
    ∃ out, TInvO E c root out t' ∧ t'.allRows.Perm (Node.branch d subs ch).allRows ∧ t'.data.comb = d.comb ∧
      NestedIn (rootIv t') (d.snapped.getD 0 default) ∧ (rootIv t').lo ≤ (rootIv t').hi ∧
      ∀ r ∈ out, r ∈ t'.allRows ∧ Outside (rootIv t') (c.value r (d.comb.getD 0 0)) := by
  cases hT with
  | branch _ _ _ _ hN hB hC =>
  have hS := hN.lenS
  -- every key is 0 or 1
  have hroute : ∀ p ∈ ch, ∀ r ∈ p.2.allRows,
      (d.snapped.getD 0 default).halfIndex (c.value r (d.comb.getD 0 0)) = p.1 := by
    intro p hp r hr
    rw [← one_dim_route c d hS h1 r]; exact hB.route p hp r hr
  have hkeys : ∀ p ∈ ch, p.1 < 2 := by
    intro p hp
    obtain ⟨r, hr⟩ := List.exists_mem_of_ne_nil _ (hC p hp).nodeOK.nonempty
    rw [← hroute p hp r hr]; exact halfIndex_lt_two _ _
  have hckm := lookupChild_mem hck
  obtain ⟨kc, kp, kb, ks⟩ := hB.child _ hckm
  simp only at kc kp kb ks
  -- the rows of the branch are those of the kept child and the folded ones
  have hperm : (Node.branch d subs ch).allRows.Perm (ck.allRows ++ rowsOf (lookupChild ch (1 - k))) := by
    rw [Node.allRows_branch]
    refine (children_two_keys ch hB.keys hkeys).trans ?_
    interval_cases k
    · simp [hck, rowsOf]
    · simp only [hck, rowsOf, Nat.sub_self]; exact List.perm_append_comm
  have hnd2 := hperm.nodup_iff.mp hnd
  have hdisj : ∀ r ∈ ck.allRows, r ∉ rowsOf (lookupChild ch (1 - k)) := by
    intro r hr hr'
    exact (List.nodup_append.mp hnd2).2.2 r hr r hr' rfl
  -- the recursive result, with the rows about to be folded declared exempt
  have hT1' : TInvO E c root (out1 ++ rowsOf (lookupChild ch (1 - k))) t1 := by
    refine hT1.congr ?_
    intro r hr
    have := hdisj r (hp1.subset hr)
    simp [this]
  obtain ⟨hT', hp', hid'⟩ := foldOutliers_inv E c root _ F _ t1 t' hT1' (fun r hr => by simp [hr]) hf
  have hroot' : rootIv t' = rootIv t1 := by unfold rootIv; rw [hid'.2.2.2.1]
  have hrootck : rootIv ck = (d.snapped.getD 0 default).half k := by
    unfold rootIv
    rw [ks, one_dim_child_range d hS h1 k, Nat.mod_eq_of_lt hk]
  have hnest := half_nested (d.snapped.getD 0 default) hord k
  refine ⟨out1 ++ rowsOf (lookupChild ch (1 - k)), hT', ?_, ?_, ?_, ?_, ?_⟩
  · exact hp'.trans ((hp1.append_right _).trans hperm.symm)
  · rw [hid'.1, hc1, kc]
  · rw [hroot']
    rw [hrootck] at hn1
    exact ⟨le_trans hnest.1.1 hn1.1, le_trans hn1.2 hnest.1.2⟩
  · rw [hroot']; exact ho1
  · intro r hr
    rw [hroot']
    rcases List.mem_append.mp hr with hr | hr
    · have := hout1 r hr
      refine ⟨hp'.symm.subset (by simp [this.1]), ?_⟩
      rw [← kc]; exact this.2
    · refine ⟨hp'.symm.subset (by simp [hr]), ?_⟩
      -- a folded row routes to the other key
      cases hl : lookupChild ch (1 - k) with
      | none => rw [hl] at hr; simp [rowsOf] at hr
      | some c' =>
        rw [hl] at hr
        simp only [rowsOf] at hr
        have hcm := lookupChild_mem hl
        have hri := hroute _ hcm r hr
        simp only at hri
        have := outside_other_half _ _ k hk hri
        rw [← hrootck] at this
        exact this.mono hn1


theorem lowRows_none_child {E : Env α} {c : FCtx α} {ch : List (Nat × Node α)} {k : Nat}
    (h : lowRows E c ch k = none) : ∃ n, lookupChild ch k = some n := by
  unfold lowRows at h
  split at h
  · cases h
  · rename_i he; exact ⟨_, he⟩
  · rename_i he; exact ⟨_, he⟩

/-- `push_down_1dim_root` on a 1-dim tree built by `add_row`: the result satisfies the invariant with an exempt set
`out`; it holds exactly the rows of the original tree; its root range is nested in the original root range; and
every exempt row lies beyond the final root range. -/
theorem pushDown_inv (E : Env α) (c : FCtx α) (root : List (Ival α)) (fuel : Nat) (t t' : Node α)
    (hT : TInv E c root t) (h1 : t.data.comb.length = 1) (hnd : t.allRows.Nodup)
    (hord : (rootIv t).lo ≤ (rootIv t).hi) (h : pushDown E c fuel t = some t') :
    ∃ out, TInvO E c root out t' ∧ t'.allRows.Perm t.allRows ∧ t'.data.comb = t.data.comb ∧
      NestedIn (rootIv t') (rootIv t) ∧ (rootIv t').lo ≤ (rootIv t').hi ∧
      ∀ r ∈ out, r ∈ t'.allRows ∧ Outside (rootIv t') (c.value r (t.data.comb.getD 0 0)) := by
  -- nothing pushed down: no exempt rows
  have stays : ∀ t : Node α, TInv E c root t → (rootIv t).lo ≤ (rootIv t).hi →
      ∃ out, TInvO E c root out t ∧ t.allRows.Perm t.allRows ∧ t.data.comb = t.data.comb ∧
        NestedIn (rootIv t) (rootIv t) ∧ (rootIv t).lo ≤ (rootIv t).hi ∧
        ∀ r ∈ out, r ∈ t.allRows ∧ Outside (rootIv t) (c.value r (t.data.comb.getD 0 0)) := fun t hT hord =>
    ⟨[], TInvO.ofTInv hT, List.Perm.refl _, rfl, ⟨le_refl _, le_refl _⟩, hord, by simp⟩
  -- the facts needed for the recursive call on a child
  have childFacts : ∀ (d : NodeData α) (s : List (Option (Node α))) (ch : List (Nat × Node α)) (k : Nat) (ck : Node α),
      TInv E c root (.branch d s ch) → d.comb.length = 1 → (Node.branch d s ch).allRows.Nodup →
      (d.snapped.getD 0 default).lo ≤ (d.snapped.getD 0 default).hi → lookupChild ch k = some ck →
      TInv E c root ck ∧ ck.data.comb.length = 1 ∧ ck.allRows.Nodup ∧ (rootIv ck).lo ≤ (rootIv ck).hi := by
    intro d s ch k ck hT h1 hnd hord hck
    have hm := lookupChild_mem hck
    cases hT with
    | branch _ _ _ _ hN hB hC =>
      obtain ⟨kc, _, _, ks⟩ := hB.child _ hm
      simp only at kc ks
      refine ⟨hC _ hm, by rw [kc]; exact h1, ?_, ?_⟩
      · rw [Node.allRows_branch] at hnd
        exact (List.nodup_flatten.mp hnd).1 _ (List.mem_map.mpr ⟨_, hm, rfl⟩)
      · unfold rootIv
        rw [ks, one_dim_child_range d hN.lenS h1 k]
        exact (half_nested _ hord _).2
  fun_induction pushDown E c fuel t generalizing t' with
  | case1 => cases h
  | case2 => cases h; exact stays _ hT hord
  | case3 fuel d s ch rs c0 hc0 hl1 _ IH =>
    obtain ⟨t1, hpd, hf⟩ := Option.bind_eq_some_iff.mp h
    obtain ⟨hTc, h1c, hndc, hordc⟩ := childFacts d s ch 0 c0 hT h1 hnd hord hc0
    obtain ⟨out1, hT1, hp1, hc1, hn1, ho1, hout1⟩ := IH t1 hTc h1c hndc hordc hpd
    rw [lowRows_some hl1] at hf
    exact pushDown_step E c root d s ch 0 (by omega) c0 t1 t' out1 100000 hT h1 hnd hord hc0 hT1 hp1 hc1 hn1 ho1 hout1 hf
  | case4 fuel d s ch ls c1 hc1' _ hl0 IH =>
    obtain ⟨t1, hpd, hf⟩ := Option.bind_eq_some_iff.mp h
    obtain ⟨hTc, h1c, hndc, hordc⟩ := childFacts d s ch 1 c1 hT h1 hnd hord hc1'
    obtain ⟨out1, hT1, hp1, hc1, hn1, ho1, hout1⟩ := IH t1 hTc h1c hndc hordc hpd
    rw [lowRows_some hl0] at hf
    exact pushDown_step E c root d s ch 1 (by omega) c1 t1 t' out1 100000 hT h1 hnd hord hc1' hT1 hp1 hc1 hn1 ho1 hout1 hf
  | case5 => cases h; exact stays _ hT hord


/-- every node of a pushed-down tree satisfies the invariant (with the same exempt set) -/
theorem TInvO.sub {E : Env α} {c : FCtx α} {root : List (Ival α)} {out : List Nat} {n t : Node α} (hs : Node.Sub n t)
    (hT : TInvO E c root out t) : TInvO E c root out n :=
  ChildClosed.sub (fun _ _ _ p h hp => by cases h with | branch _ _ _ _ _ hC => exact hC p hp) hs hT


theorem TInvO.shape {E : Env α} {c : FCtx α} {root : List (Ival α)} {out : List Nat} {t : Node α} (h : TInvO E c root out t) :
    Shape t := by
  induction h with
  | leaf d subs rows hN => exact Shape.leaf _ _ _ ⟨hN.lenS, hN.lenA, hN.subsOK.2.2⟩ hN.subsOK.1 hN.subsOK.2.1
  | branch d subs ch hN hB hC ih =>
    exact Shape.branch _ _ _ ⟨hN.lenS, hN.lenA, hN.subsOK.2.2⟩ hN.subsOK.1 hN.subsOK.2.1 hB.keys
      (fun p hp => ⟨(hB.child p hp).1, (hB.child p hp).2.1, (hB.child p hp).2.2.2⟩) ih

end
