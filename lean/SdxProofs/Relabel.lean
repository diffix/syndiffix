import SdxProofs.TreeInduction
set_option linter.unusedSectionVars false
/-!
# Position independence of trees

`Node.relabel ρ` renames the column ids stored in a tree (and in its sub-nodes). If two tables agree on the columns
of a tree up to the renaming `ρ` — same values in those columns, same entity ids, same parameters — then inserting a
row into the renamed tree over the second table gives the renamed result of inserting it over the first.
-/

variable {α : Type}

def NodeData.relabel (ρ : Nat → Nat) (d : NodeData α) : NodeData α := { d with comb := d.comb.map ρ }

theorem sizeOf_sub_lt (d : NodeData α) (subs : List (Option (Node α))) (n : Node α) (h : some n ∈ subs) :
    sizeOf n < 1 + sizeOf d + sizeOf subs := by
  have h1 : sizeOf (some n) < sizeOf subs := List.sizeOf_lt_of_mem h
  have h2 : sizeOf (some n) = 1 + sizeOf n := rfl
  omega

/-- rename the column ids of a tree and of all its sub-nodes -/
def Node.relabel (ρ : Nat → Nat) : Node α → Node α
  | .leaf d subs rows =>
      .leaf (d.relabel ρ) (subs.attach.map (fun s => match s with
        | ⟨none, _⟩ => none
        | ⟨some n, _⟩ => some (Node.relabel ρ n))) rows
  | .branch d subs ch =>
      .branch (d.relabel ρ) (subs.attach.map (fun s => match s with
        | ⟨none, _⟩ => none
        | ⟨some n, _⟩ => some (Node.relabel ρ n))) (ch.attach.map (fun p => (p.1.1, Node.relabel ρ p.1.2)))
termination_by n => sizeOf n
decreasing_by
  all_goals simp_wf
  · rename_i h; have := sizeOf_sub_lt d subs n h; omega
  · rename_i h; have := sizeOf_sub_lt d subs n h; omega
  · have h1 : sizeOf p.1 < sizeOf ch := List.sizeOf_lt_of_mem p.2
    have h2 : sizeOf p.1.2 < sizeOf p.1 := by
      obtain ⟨⟨a, b⟩, _⟩ := p
      simp only [Prod.mk.sizeOf_spec]; omega
    omega

theorem attach_map_sub (ρ : Nat → Nat) (subs : List (Option (Node α))) :
    (subs.attach.map (fun s => match s with
        | ⟨none, _⟩ => none
        | ⟨some n, _⟩ => some (Node.relabel ρ n))) = subs.map (Option.map (Node.relabel ρ)) := by
  rw [← List.attach_map_val (l := subs) (f := Option.map (Node.relabel ρ))]
  congr 1
  funext ⟨s, _⟩
  cases s <;> rfl

theorem Node.relabel_leaf (ρ : Nat → Nat) (d : NodeData α) (subs : List (Option (Node α))) (rows : List Nat) :
    Node.relabel ρ (.leaf d subs rows) = .leaf (d.relabel ρ) (subs.map (Option.map (Node.relabel ρ))) rows := by
  rw [Node.relabel, attach_map_sub]

theorem Node.relabel_branch (ρ : Nat → Nat) (d : NodeData α) (subs : List (Option (Node α))) (ch : List (Nat × Node α)) :
    Node.relabel ρ (.branch d subs ch) =
      .branch (d.relabel ρ) (subs.map (Option.map (Node.relabel ρ))) (ch.map (fun p => (p.1, Node.relabel ρ p.2))) := by
  rw [Node.relabel, attach_map_sub]
  congr 1
  exact List.attach_map_val (l := ch) (f := fun p => (p.1, Node.relabel ρ p.2))

theorem Node.relabel_data (ρ : Nat → Nat) (n : Node α) : (Node.relabel ρ n).data = n.data.relabel ρ := by
  cases n with
  | leaf d s r => rw [Node.relabel_leaf]; rfl
  | branch d s ch => rw [Node.relabel_branch]; rfl

theorem relabel_subnodes (ρ : Nat → Nat) (n : Node α) :
    (Node.relabel ρ n).subnodes = n.subnodes.map (Option.map (Node.relabel ρ)) := by
  cases n with
  | leaf d s r => rw [Node.relabel_leaf]; rfl
  | branch d s ch => rw [Node.relabel_branch]; rfl

/-! Simulation in the `Option` monad: `OptSim P r x y` says that `y` returns the `r`-image of what `x` returns (and fails
when `x` fails), and that what `x` returns satisfies `P`. It is kept by `bind`, hence by `map`, `foldlM` and `mapM`. -/

section
variable {β γ δ β' γ' : Type} {P : β → Prop} {r : β → γ} {Q : β' → Prop} {s : β' → γ'}

def OptSim (P : β → Prop) (r : β → γ) (x : Option β) (y : Option γ) : Prop :=
  y = x.map r ∧ ∀ b, x = some b → P b

theorem OptSim.some {b : β} (hb : P b) : OptSim P r (some b) (some (r b)) :=
  ⟨rfl, fun _ e => by cases e; exact hb⟩

theorem OptSim.bind {x : Option β} {y : Option γ} {f : β → Option β'} {g : γ → Option γ'}
    (hx : OptSim P r x y) (hf : ∀ b, P b → OptSim Q s (f b) (g (r b))) : OptSim Q s (x.bind f) (y.bind g) := by
  obtain ⟨rfl, hP⟩ := hx
  cases x with
  | none => exact ⟨rfl, nofun⟩
  | some b => exact hf b (hP b rfl)

theorem OptSim.map {x : Option β} {y : Option γ} {f : β → β'} {g : γ → γ'}
    (hx : OptSim P r x y) (hf : ∀ b, P b → g (r b) = s (f b) ∧ Q (f b)) : OptSim Q s (x.map f) (y.map g) := by
  obtain ⟨rfl, hP⟩ := hx
  cases x with
  | none => exact ⟨rfl, nofun⟩
  | some b => exact ⟨congrArg _ (hf b (hP b rfl)).1, fun _ e => by cases e; exact (hf b (hP b rfl)).2⟩

theorem OptSim.foldlM {f : β → δ → Option β} {g : γ → δ → Option γ} (h : ∀ b x, P b → OptSim P r (f b x) (g (r b) x)) :
    ∀ (l : List δ) (b : β), P b → OptSim P r (l.foldlM f b) (l.foldlM g (r b))
  | [], _, hb => .some hb
  | x :: l, b, hb => (h b x hb).bind (OptSim.foldlM h l)

theorem OptSim.mapM {f : β → Option β} {g : γ → Option γ} (h : ∀ b, P b → OptSim P r (f b) (g (r b))) :
    ∀ l : List β, (∀ b ∈ l, P b) → OptSim (fun l' => ∀ b ∈ l', P b) (List.map r) (l.mapM f) ((l.map r).mapM g)
  | [], _ => .some (fun _ hb => nomatch hb)
  | a :: l, hl => by
    rw [List.map_cons, List.mapM_cons, List.mapM_cons]
    exact (h a (hl a List.mem_cons_self)).bind fun a1 ha1 =>
      (OptSim.mapM h l fun b hb => hl b (List.mem_cons_of_mem a hb)).bind fun l1 hl1 =>
        .some (List.forall_mem_cons.mpr ⟨ha1, hl1⟩)

end

section
variable {α : Type} [Add α] [Sub α] [Mul α] [Div α] [LT α] [LE α] [BEq α]
  [DecidableLT α] [DecidableLE α] [ScalarOps α] [Inhabited α]

/-- the two tables agree on the columns `S` up to the renaming `ρ`; everything else about the contexts is equal -/
structure Agree (c c' : FCtx α) (ρ : Nat → Nat) (S : List Nat) : Prop where
  pids : c'.pids = c.pids
  ap : c'.ap = c.ap
  bp : c'.bp = c.bp
  kind : c'.kind = c.kind
  size : c'.data.size = c.data.size
  vals : ∀ row, ∀ j ∈ S, c'.value row (ρ j) = c.value row j

variable {c c' : FCtx α} {ρ : Nat → Nat} {S : List Nat}

theorem Agree.vals_comb (h : Agree c c' ρ S) (comb : List Nat) (hc : ∀ j ∈ comb, j ∈ S) (row : Nat) :
    c'.vals (comb.map ρ) row = c.vals comb row := by
  simp only [FCtx.vals, List.map_map]
  exact List.map_congr_left (fun j hj => h.vals row j (hc j hj))

theorem Agree.pidRow (h : Agree c c' ρ S) (row : Nat) : c'.pidRow row = c.pidRow row := by
  simp [FCtx.pidRow, h.pids]

theorem relabel_isSing (n : Node α) : (Node.relabel ρ n).isSing = n.isSing := by
  simp [Node.isSing, Node.relabel_data, NodeData.relabel]

theorem relabel_bucketIntervals (n : Node α) : (Node.relabel ρ n).bucketIntervals = n.bucketIntervals := by
  simp [Node.bucketIntervals, Node.relabel_data, NodeData.relabel]

theorem relabel_dims (n : Node α) : (Node.relabel ρ n).dims = n.dims := by
  simp [Node.dims, Node.relabel_data, NodeData.relabel]

theorem relabel_overThreshold (E : Env α) (h : Agree c c' ρ S) (n : Node α) (th : Int) :
    (Node.relabel ρ n).overThreshold E c' th = n.overThreshold E c th := by
  simp [Node.overThreshold, Node.relabel_data, NodeData.relabel, h.ap]

theorem relabel_isStubSubnode (E : Env α) (h : Agree c c' ρ S) (n : Node α) :
    (Node.relabel ρ n).isStubSubnode E c' = n.isStubSubnode E c := by
  simp only [Node.isStubSubnode, relabel_isSing, relabel_overThreshold E h, h.bp, Node.relabel_data, NodeData.relabel]

theorem relabel_stubFlag (E : Env α) (h : Agree c c' ρ S) (subs : List (Option (Node α))) :
    stubFlag E c' (subs.map (Option.map (Node.relabel ρ))) = stubFlag E c subs := by
  unfold stubFlag
  rw [List.all_map, List.isEmpty_map]
  congr 2
  funext s
  cases s with
  | none => rfl
  | some n => exact relabel_isStubSubnode E h n

theorem relabel_updData (h : Agree c c' ρ S) (d : NodeData α) (hc : ∀ j ∈ d.comb, j ∈ S) (row : Nat) :
    updData c' (d.relabel ρ) row = (updData c d row).relabel ρ := by
  simp only [updData, NodeData.relabel, h.pidRow, h.vals_comb d.comb hc]

theorem relabel_mkLeaf (E : Env α) (h : Agree c c' ρ S) (comb path : List Nat) (hc : ∀ j ∈ comb, j ∈ S) (seed : UInt64)
    (subs : List (Option (Node α))) (snapped : List (Ival α)) (row : Nat) :
    mkLeaf E c' (comb.map ρ) path seed (subs.map (Option.map (Node.relabel ρ))) snapped row =
      Node.relabel ρ (mkLeaf E c comb path seed subs snapped row) := by
  simp only [mkLeaf, Node.relabel_leaf, NodeData.relabel, h.vals_comb comb hc, relabel_stubFlag E h, h.kind, h.pidRow]

theorem find?_map_relabel (ch : List (Nat × Node α)) (k : Nat) :
    (ch.map (fun p => (p.1, Node.relabel ρ p.2))).find? (fun p => p.1 == k) =
      (ch.find? (fun p => p.1 == k)).map (fun p => (p.1, Node.relabel ρ p.2)) :=
  List.find?_map

theorem relabel_lookupChild (ch : List (Nat × Node α)) (k : Nat) :
    lookupChild (ch.map (fun p => (p.1, Node.relabel ρ p.2))) k = (lookupChild ch k).map (Node.relabel ρ) := by
  rw [lookupChild, find?_map_relabel, Option.map_map, lookupChild, Option.map_map]
  rfl

theorem relabel_childOfSub (s : Option (Node α)) (k : Nat) :
    childOfSub (s.map (Node.relabel ρ)) k = (childOfSub s k).map (Node.relabel ρ) := by
  cases s with
  | none => rfl
  | some n =>
    cases n with
    | leaf d ss rows => simp [childOfSub, Node.relabel_leaf]
    | branch d ss ch => simp [childOfSub, Node.relabel_branch, relabel_lookupChild]

theorem relabel_createChild (E : Env α) (h : Agree c c' ρ S) (d : NodeData α) (hc : ∀ j ∈ d.comb, j ∈ S)
    (subs : List (Option (Node α))) (idx row : Nat) :
    createChild E c' (d.relabel ρ) (subs.map (Option.map (Node.relabel ρ))) idx row =
      Node.relabel ρ (createChild E c d subs idx row) := by
  unfold createChild
  simp only [NodeData.relabel, List.length_map]
  rw [← relabel_mkLeaf E h d.comb _ hc, List.zip_map_right, List.map_map, List.map_map]
  congr 2
  funext ⟨k, s⟩
  exact relabel_childOfSub s _

theorem relabel_shouldSplit (E : Env α) (h : Agree c c' ρ S) (rl : Int) (depth : Nat) (n : Node α) (k : Nat) :
    shouldSplit E c' rl depth (Node.relabel ρ n) k = shouldSplit E c rl depth n k := by
  simp only [shouldSplit, relabel_isSing, relabel_overThreshold E h, Node.relabel_data, NodeData.relabel, h.bp, h.ap]

/-- every node of the tree (children, not sub-nodes) is over columns in `S` -/
inductive CombIn (S : List Nat) : Node α → Prop
  | leaf (d : NodeData α) (s : List (Option (Node α))) (r : List Nat) : (∀ j ∈ d.comb, j ∈ S) → CombIn S (.leaf d s r)
  | branch (d : NodeData α) (s : List (Option (Node α))) (ch : List (Nat × Node α)) :
      (∀ j ∈ d.comb, j ∈ S) → (∀ p ∈ ch, CombIn S p.2) → CombIn S (.branch d s ch)

theorem NodeData.relabel_with (d : NodeData α) (cn : ECounter) (st : Bool) :
    { d.relabel ρ with counter := cn, isStub := st } = ({ d with counter := cn, isStub := st } : NodeData α).relabel ρ := rfl

/-- `add_row` commutes with renaming the columns, over tables that agree on the tree's columns -/
theorem addRow_relabel (E : Env α) (h : Agree c c' ρ S) (rl : Int) :
    ∀ (fuel depth : Nat) (t : Node α) (row : Nat), CombIn S t →
      addRow E c' rl fuel depth (Node.relabel ρ t) row = (addRow E c rl fuel depth t row).map (Node.relabel ρ) ∧
      ∀ t', addRow E c rl fuel depth t row = some t' → CombIn S t' := by
  intro fuel depth t row
  show CombIn S t → OptSim (CombIn S) (Node.relabel ρ) (addRow E c rl fuel depth t row) (addRow E c' rl fuel depth (Node.relabel ρ t) row)
  -- in every case: unfold both sides, move the renaming outwards on the right
  induction fuel, depth, t, row using addRow.induct E c rl with
  | case1 => exact fun _ => ⟨rfl, nofun⟩
  | case2 fuel depth d subs rows row hs ih =>
    rintro ⟨_, _, _, hc⟩
    have := OptSim.foldlM (fun b r => ih b r) (rows ++ [row])
      (.branch { updData c d row with counter := c.kind.newEntity, isStub := stubFlag E c subs } subs [])
      (.branch _ _ [] hc (fun _ hp => nomatch hp))
    rw [Node.relabel_branch] at this
    rw [Node.relabel_leaf, addRow, addRow, if_pos hs]
    simp only [relabel_updData h d hc, relabel_stubFlag E h, h.kind, NodeData.relabel_with, ← Node.relabel_leaf,
      relabel_shouldSplit E h, hs, if_true]
    exact this
  | case3 fuel depth d subs rows row hs =>
    rintro ⟨_, _, _, hc⟩
    rw [Node.relabel_leaf, addRow, addRow, if_neg hs]
    simp only [relabel_updData h d hc, ← Node.relabel_leaf, relabel_shouldSplit E h, hs]
    exact .some (.leaf _ _ _ hc)
  | case4 fuel depth d subs ch row idx hf =>
    rintro (_ | ⟨_, _, _, hc, hC⟩)
    have ev : c'.vals (d.relabel ρ).comb row = c.vals d.comb row := h.vals_comb d.comb hc row
    rw [Node.relabel_branch, addRow, addRow, ev, show (d.relabel ρ).snapped = d.snapped from rfl, find?_map_relabel, hf]
    have := OptSim.some (r := Node.relabel ρ) (CombIn.branch (updData c d row) subs (ch ++ [(idx, createChild E c d subs idx row)]) hc
      (List.forall_mem_append.mpr ⟨hC, fun p hp => by rw [List.mem_singleton.mp hp]; exact .leaf _ _ _ hc⟩))
    rw [Node.relabel_branch, List.map_append] at this
    simp only [Option.map_none, relabel_updData h d hc, relabel_createChild E h d hc]
    exact this
  | case5 fuel depth d subs ch row idx q hf ih =>
    rintro (_ | ⟨_, _, _, hc, hC⟩)
    have ev : c'.vals (d.relabel ρ).comb row = c.vals d.comb row := h.vals_comb d.comb hc row
    rw [Node.relabel_branch, addRow, addRow, ev, show (d.relabel ρ).snapped = d.snapped from rfl, find?_map_relabel, hf]
    refine OptSim.map (OptSim.mapM (P := fun p => CombIn S p.2) (r := fun p => (p.1, Node.relabel ρ p.2)) (fun p hp => ?_) ch hC)
      fun ch' hch' => ⟨?_, CombIn.branch _ _ _ hc hch'⟩
    · dsimp only
      split_ifs
      exacts [(ih p hp).map (Q := fun q : Nat × Node α => CombIn S q.2) fun n hn => ⟨rfl, hn⟩, .some hp]
    · rw [Node.relabel_branch, relabel_updData h d hc]

theorem relabel_matchingRows : ∀ (fuel : Nat) (n : Node α), (Node.relabel ρ n).matchingRows fuel = n.matchingRows fuel := by
  intro fuel
  induction fuel with
  | zero => intro n; simp [Node.matchingRows]
  | succ fuel ih =>
    intro n
    cases n with
    | leaf d s rows => rw [Node.relabel_leaf]; simp [Node.matchingRows]
    | branch d s ch =>
      rw [Node.relabel_branch]
      simp only [Node.matchingRows, List.map_map]
      exact congrArg _ (List.map_congr_left (fun p _ => ih p.2))

/-- the released count of a node does not depend on where its columns sit -/
theorem relabel_noisyCount (E : Env α) (h : Agree c c' ρ S) (n : Node α) :
    (Node.relabel ρ n).noisyCount E c' = n.noisyCount E c := by
  have e : (n.matchingRows 100000).map c'.pidRow = (n.matchingRows 100000).map c.pidRow :=
    List.map_congr_left (fun r _ => h.pidRow r)
  simp only [Node.noisyCount, relabel_matchingRows, relabel_bucketIntervals, Node.relabel_data, NodeData.relabel, h.ap, h.kind, e]

end
