import SdxProofs.IntervalLemmas
set_option linter.unusedSectionVars false
/-! One step of `snap_interval`: its size, and the two grid facts the re-snap rests on. -/

section
variable {α : Type} [Field α] [LinearOrder α] [IsStrictOrderedRing α] [FloorRing α]

/-- `_next_pow2` doubles exactly when its argument passes a power of two: `P = 2^k < x ≤ 2P` gives `2P`. -/
theorem nextPow2_eq_double {x P : α} {k : ℤ} (hP : P = 2 ^ k) (h1 : P < x) (h2 : x ≤ 2 * P) :
    (ScalarOps.nextPow2 x : α) = 2 * P := by
  have hx : 0 < x := (hP ▸ zpow_pos two_pos k).trans h1
  have hb : (1 : ℕ) < 2 := one_lt_two
  rw [hP, mul_comm, ← zpow_add_one₀ two_ne_zero] at h2
  rw [hP, mul_comm, ← zpow_add_one₀ two_ne_zero, snextPow2_eq,
    le_antisymm ((Int.le_zpow_iff_clog_le hb hx).mp (mod_cast h2)) ((Int.zpow_lt_iff_lt_clog hb hx).mp (mod_cast hP ▸ h1))]

/-- `floorBy v a` is an integer multiple of `a`. -/
theorem floorBy_multiple (v a : α) : ∃ n : ℤ, floorBy v a = n * a := ⟨⌊v / a⌋, rfl⟩

/-- The multiples of `n·a` are among the multiples of `a`: flooring to the finer grid first changes nothing. -/
theorem floorBy_floorBy (v : α) {a : α} (ha : a ≠ 0) (n : ℕ) : floorBy (floorBy v a) (n * a) = floorBy v (n * a) := by
  unfold floorBy
  rw [sfloor_eq, sfloor_eq, sfloor_eq, mul_div_mul_right _ _ ha, mul_comm (n : α) a, ← div_div,
    Int.floor_div_natCast, Int.floor_div_natCast, Int.floor_intCast]

/-- the size used by one snapping step -/
noncomputable def snapSize (i : Ival α) : α := if 0 < i.hi - i.lo then (2 : α) ^ Int.clog 2 (i.hi - i.lo) else 1

theorem snapStep_eq (i : Ival α) :
    snapStep i =
      if floorBy i.lo (snapSize i / 2) + snapSize i < i.hi then .inl ⟨floorBy i.lo (snapSize i / 2), i.hi⟩
      else .inr ⟨floorBy i.lo (snapSize i / 2), floorBy i.lo (snapSize i / 2) + snapSize i⟩ := by
  simp [snapStep, snapSize, Ival.size]

theorem snapSize_of_lt {i : Ival α} (h : i.lo < i.hi) : snapSize i = ScalarOps.nextPow2 (i.hi - i.lo) :=
  if_pos (sub_pos.mpr h)

theorem snapSize_of_eq {i : Ival α} (h : i.lo = i.hi) : snapSize i = 1 :=
  if_neg (by rw [h, sub_self]; exact lt_irrefl 0)

theorem snapSize_pow (i : Ival α) : ∃ k : ℤ, snapSize i = 2 ^ k := by
  unfold snapSize; split_ifs
  · exact ⟨_, rfl⟩
  · exact ⟨0, (zpow_zero _).symm⟩

theorem snapSize_pos (i : Ival α) : 0 < snapSize i := by
  obtain ⟨k, hk⟩ := snapSize_pow i
  exact hk ▸ zpow_pos two_pos k

theorem snapSize_bounds {i : Ival α} (h : i.lo < i.hi) :
    i.hi - i.lo ≤ snapSize i ∧ snapSize i < 2 * (i.hi - i.lo) := by
  rw [snapSize_of_lt h]
  exact ⟨nextPow2_ge (sub_pos.mpr h), nextPow2_lt (sub_pos.mpr h)⟩

end
