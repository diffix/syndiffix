import SdxModel.Solver
import SdxProofs.MonadLemmas
import SdxProofs.ListLemmas
import Mathlib.Data.List.Perm.Basic
import Mathlib.Data.List.Basic
import Mathlib.Data.List.Range
import Mathlib.Data.List.Nodup
/-! Structural lemmas about `clustering/solver.py`: which columns end up where — for every matrix, weight
vector, threshold, permutation and set iteration order (no arithmetic facts about `Float` are used). -/

/-! ### `CSet`: logical content vs. iteration order -/

/-- the iteration order is a permutation of the content, whatever the table replica does -/
theorem CSet_toList_perm (s : CSet) : s.toList.Perm s.elems := by
  unfold CSet.toList
  split_ifs with h
  · exact List.isPerm_iff.mp h
  · exact List.Perm.refl _

theorem CSet.mem_toList (s : CSet) (x : Nat) : x ∈ s.toList ↔ x ∈ s.elems := (CSet_toList_perm s).mem_iff

theorem CSet.elems_add (s : CSet) (k : Nat) : (s.add k).elems = if k ∈ s.elems then s.elems else s.elems ++ [k] := by
  unfold CSet.add
  by_cases h : k ∈ s.elems <;> simp [h]

theorem CSet.mem_add (s : CSet) (k x : Nat) : x ∈ (s.add k).elems ↔ x ∈ s.elems ∨ x = k := by
  rw [CSet.elems_add]
  split_ifs with h
  · constructor
    · exact Or.inl
    · rintro (h1 | rfl); exact h1; exact h
  · simp

theorem CSet.elems_singleton (k : Nat) : (CSet.singleton k).elems = [k] := by
  simp [CSet.singleton, CSet.empty, CSet.elems_add]

theorem CSet.elems_copy (s : CSet) : s.copy.elems = s.elems := rfl

theorem CSet.mem_update (s : CSet) (ks : List Nat) (x : Nat) : x ∈ (s.update ks).elems ↔ x ∈ s.elems ∨ x ∈ ks := by
  unfold CSet.update
  induction ks generalizing s with
  | nil => simp
  | cons k ks ih => rw [List.foldl_cons, ih, CSet.mem_add, List.mem_cons, or_assoc]

theorem CSet.nodup_add (s : CSet) (k : Nat) (h : s.elems.Nodup) : (s.add k).elems.Nodup := by
  rw [CSet.elems_add]
  split_ifs with hk
  · exact h
  · exact List.Nodup.append h (by simp) (by simpa using hk)

/-! ### the greedy assignment -/

/-- all columns assigned so far -/
def assigned (clusters : List MutableCluster) : List Nat := (clusters.map (·.columns.elems)).flatten

theorem pickStep_fst (ctx : ClusteringContext) (mw th : Float) (w : Array Float) (col : Nat)
    (best : Option Nat × Float) (ic : Nat × MutableCluster) :
    (pickStep ctx mw th w col best ic).1 = best.1 ∨ (pickStep ctx mw th w col best ic).1 = some ic.1 := by
  unfold pickStep
  generalize (if ic.1 == 0 then mw else DERIVED_COLS_RATIO * mw) = capacity
  simp only
  split_ifs
  · exact Or.inl rfl
  · exact Or.inr rfl
  · exact Or.inl rfl

theorem pickCluster_lt (ctx : ClusteringContext) (mw th : Float) (w : Array Float) (clusters : List MutableCluster) (col bi : Nat)
    (h : pickCluster ctx mw th w clusters col = some bi) : bi < clusters.length := by
  unfold pickCluster at h
  exact List.foldlRecOn (motive := fun best : Option Nat × Float => ∀ i, best.1 = some i → i < clusters.length)
    (List.zip (List.range clusters.length) clusters) (pickStep ctx mw th w col) (b := (none, -1.0)) (fun _ h => nomatch h)
    (fun best hb ic hic i hi => by
      rcases pickStep_fst ctx mw th w col best ic with h1 | h1
      · exact hb i (h1 ▸ hi)
      · cases h1.symm.trans hi
        simpa using (List.of_mem_zip hic).1) bi h

theorem assigned_append (a b : List MutableCluster) : assigned (a ++ b) = assigned a ++ assigned b := by
  simp [assigned]

theorem assigned_modify (clusters : List MutableCluster) (bi col : Nat) (f : Float → Float) (hbi : bi < clusters.length)
    (hnew : col ∉ assigned clusters) :
    (assigned (clusters.modify bi (fun cl => { columns := cl.columns.add col, totalEntropy := f cl.totalEntropy }))).Perm
      (assigned clusters ++ [col]) := by
  induction clusters generalizing bi with
  | nil => simp at hbi
  | cons c cs ih =>
    cases bi with
    | zero =>
      have hc : col ∉ c.columns.elems := fun h => hnew (by simp [assigned, h])
      simp only [List.modify_zero_cons, assigned, List.map_cons, List.flatten_cons, CSet.elems_add, hc, if_false]
      rw [List.append_assoc, List.append_assoc]
      exact List.Perm.append_left _ List.perm_append_comm
    | succ b =>
      have hcs : col ∉ assigned cs := fun h => hnew (by simp only [assigned, List.map_cons, List.flatten_cons, List.mem_append] at h ⊢; exact Or.inr h)
      have := ih b (by simpa using hbi) hcs
      simp only [List.modify_succ_cons, assigned, List.map_cons, List.flatten_cons] at this ⊢
      rw [List.append_assoc]
      exact List.Perm.append_left _ this

/-- placing a fresh column adds exactly that column -/
theorem placeColumn_assigned (w : Array Float) (clusters : List MutableCluster) (col : Nat) (choice : Option Nat)
    (hc : ∀ bi, choice = some bi → bi < clusters.length) (hnew : col ∉ assigned clusters) :
    (assigned (placeColumn w clusters col choice)).Perm (assigned clusters ++ [col]) := by
  cases choice with
  | none => simp [placeColumn, assigned_append, assigned, CSet.elems_singleton]
  | some bi => exact assigned_modify clusters bi col (fun t => t + w[col]!) (hc bi rfl) hnew

/-- every cluster stays non-empty, the clusters already there keep their position and only grow -/
theorem placeColumn_structure (w : Array Float) (clusters : List MutableCluster) (col : Nat) (choice : Option Nat) :
    clusters.length ≤ (placeColumn w clusters col choice).length ∧
    (∀ i (hi : i < clusters.length), ∃ hi' : i < (placeColumn w clusters col choice).length,
        ∀ x ∈ clusters[i].columns.elems, x ∈ ((placeColumn w clusters col choice)[i]'hi').columns.elems) ∧
    ((∀ c ∈ clusters, c.columns.elems ≠ []) → ∀ c ∈ placeColumn w clusters col choice, c.columns.elems ≠ []) := by
  cases choice with
  | none =>
    simp only [placeColumn]
    refine ⟨by simp, fun i hi => ⟨by simp; omega, by intro x hx; rw [List.getElem_append_left hi]; exact hx⟩, ?_⟩
    intro h c hc
    rcases List.mem_append.mp hc with hc | hc
    · exact h c hc
    · simp only [List.mem_singleton] at hc; subst hc; simp [CSet.elems_singleton]
  | some bi =>
    simp only [placeColumn]
    refine ⟨by simp, fun i hi => ⟨by simpa using hi, ?_⟩, ?_⟩
    · intro x hx
      rw [List.getElem_modify]
      split_ifs with h
      · simp only; rw [CSet.mem_add]; exact Or.inl hx
      · exact hx
    · intro h c hc
      rw [List.mem_iff_getElem] at hc
      obtain ⟨i, hi, rfl⟩ := hc
      rw [List.getElem_modify]
      have hi' : i < clusters.length := by simpa using hi
      split_ifs with hb
      · simp only
        intro he
        have : col ∈ (clusters[i].columns.add col).elems := by rw [CSet.mem_add]; exact Or.inr rfl
        rw [he] at this; simp at this
      · exact h _ (List.getElem_mem hi')

/-- The greedy pass places every column of the permutation exactly once, keeps the clusters that were there
(in place, only growing) and never produces an empty cluster. -/
theorem assignColumns_spec (ctx : ClusteringContext) (mw th : Float) (w : Array Float) :
    ∀ (cols : List Nat) (clusters : List MutableCluster), (assigned clusters ++ cols).Nodup →
      (∀ c ∈ clusters, c.columns.elems ≠ []) →
      (assigned (assignColumns ctx mw th w clusters cols)).Perm (assigned clusters ++ cols) ∧
      (∀ c ∈ assignColumns ctx mw th w clusters cols, c.columns.elems ≠ []) ∧
      clusters.length ≤ (assignColumns ctx mw th w clusters cols).length ∧
      (∀ i (hi : i < clusters.length), ∃ hi' : i < (assignColumns ctx mw th w clusters cols).length,
        ∀ x ∈ clusters[i].columns.elems, x ∈ ((assignColumns ctx mw th w clusters cols)[i]'hi').columns.elems) := by
  intro cols
  induction cols with
  | nil =>
    intro clusters _ hne
    simp only [assignColumns, List.append_nil]
    exact ⟨List.Perm.refl _, hne, le_refl _, fun i hi => ⟨hi, fun x hx => hx⟩⟩
  | cons col rest ih =>
    intro clusters hnd hne
    simp only [assignColumns]
    set choice := pickCluster ctx mw th w clusters col with hchoice
    have hnew : col ∉ assigned clusters := by
      intro hmem
      have := List.nodup_append.mp hnd
      exact this.2.2 col hmem col (by simp) rfl
    have hplace := placeColumn_assigned w clusters col choice
      (fun bi hbi => pickCluster_lt ctx mw th w clusters col bi (hchoice ▸ hbi)) hnew
    obtain ⟨s1, s2, s3⟩ := placeColumn_structure w clusters col choice
    have hnd' : (assigned (placeColumn w clusters col choice) ++ rest).Nodup := by
      have hp : (assigned (placeColumn w clusters col choice) ++ rest).Perm (assigned clusters ++ col :: rest) := by
        have := hplace.append_right rest
        simpa [List.append_assoc] using this
      exact hp.nodup_iff.mpr hnd
    obtain ⟨r1, r2, r3, r4⟩ := ih (placeColumn w clusters col choice) hnd' (s3 hne)
    refine ⟨?_, r2, le_trans s1 r3, ?_⟩
    · have := r1.trans (hplace.append_right rest)
      simpa [List.append_assoc] using this
    · intro i hi
      obtain ⟨hi1, h1⟩ := s2 i hi
      obtain ⟨hi2, h2⟩ := r4 i hi1
      exact ⟨hi2, fun x hx => h2 x (h1 x hx)⟩

/-! ### stitch columns -/

theorem insertByKeyDesc_perm {β : Type} (lt : β → β → Bool) (x : β) (l : List β) : (insertByKeyDesc lt x l).Perm (x :: l) := by
  induction l with
  | nil => exact .refl _
  | cons y ys ih =>
    unfold insertByKeyDesc
    split_ifs
    · exact .refl _
    · exact (ih.cons y).trans (.swap x y ys)

theorem sortDescStable_perm {β : Type} (lt : β → β → Bool) (l : List β) : (sortDescStable lt l).Perm l := by
  simpa [sortDescStable] using List.foldl_insert_perm (insertByKeyDesc_perm lt) l []

theorem mem_sortDescStable {β : Type} (lt : β → β → Bool) (l : List β) (y : β) : y ∈ sortDescStable lt l ↔ y ∈ l :=
  (sortDescStable_perm lt l).mem_iff

theorem stitchCandidates_mem (ctx : ClusteringContext) (available : CSet) (derived : List Nat) (x : Nat × Float × Float)
    (h : x ∈ stitchCandidates ctx available derived) : x.1 ∈ available.elems := by
  unfold stitchCandidates at h
  rw [mem_sortDescStable] at h
  simp only [List.mem_map] at h
  obtain ⟨cl, hcl, rfl⟩ := h
  exact (CSet.mem_toList available cl).mp hcl

theorem stitchCandidates_ne_nil (ctx : ClusteringContext) (available : CSet) (derived : List Nat)
    (h : available.elems ≠ []) : stitchCandidates ctx available derived ≠ [] := by
  obtain ⟨a, ha⟩ := List.exists_mem_of_ne_nil _ h
  have ha' : a ∈ available.toList := (CSet.mem_toList available a).mpr ha
  intro he
  have hm : (a, pySum (derived.map (fun cr => ctx.d a cr)) / Float.ofNat derived.length, pyMax (derived.map (fun cr => ctx.d a cr)))
      ∈ stitchCandidates ctx available derived := by
    unfold stitchCandidates
    rw [mem_sortDescStable]
    exact List.mem_map.mpr ⟨a, ha', rfl⟩
  rw [he] at hm; simp at hm

theorem stitchSet_mem (mw th : Float) (w : Array Float) (bestCol : Nat) (w0 : Float) (sorted : List (Nat × Float × Float)) :
    bestCol ∈ (stitchSet mw th w bestCol w0 sorted).elems ∧
    (∀ x ∈ (stitchSet mw th w bestCol w0 sorted).elems, x = bestCol ∨ ∃ y ∈ sorted, y.1 = x) ∧
    (stitchSet mw th w bestCol w0 sorted).elems.Nodup := by
  unfold stitchSet
  refine List.foldlRecOn (motive := fun acc : CSet × Float =>
    bestCol ∈ acc.1.elems ∧ (∀ x ∈ acc.1.elems, x = bestCol ∨ ∃ y ∈ sorted, y.1 = x) ∧ acc.1.elems.Nodup) sorted _
    (by simp [CSet.elems_singleton]) (fun acc ⟨h1, h2, h3⟩ y hy => ?_)
  split_ifs
  · exact ⟨(CSet.mem_add _ _ _).mpr (Or.inl h1),
      fun x hx => ((CSet.mem_add _ _ _).mp hx).elim (h2 x) (fun e => Or.inr ⟨y, hy, e.symm⟩), CSet.nodup_add _ _ h3⟩
  · exact ⟨h1, h2, h3⟩
  · exact ⟨h1, h2, h3⟩

/-- what one derived cluster looks like -/
theorem stitchFor_spec (ctx : ClusteringContext) (mw th : Float) (w : Array Float) (available : CSet) (cluster : MutableCluster)
    (hav : available.elems ≠ []) (hmain : ∀ m, ctx.main = some m → m ∈ available.elems) :
    let r := stitchFor ctx mw th w available cluster
    r.1.derived = cluster.columns.toList ∧ r.1.stitch ≠ [] ∧ r.1.stitch.Nodup ∧ (∀ s ∈ r.1.stitch, s ∈ available.elems) ∧
    (∀ m, ctx.main = some m → m ∈ r.1.stitch) ∧
    (∀ x, x ∈ r.2.elems ↔ x ∈ available.elems ∨ x ∈ cluster.columns.elems) := by
  simp only [stitchFor]
  have hbest : bestStitchCol ctx (stitchCandidates ctx available cluster.columns.toList) ∈ available.elems := by
    unfold bestStitchCol
    cases hm : ctx.main with
    | some m => exact hmain m hm
    | none =>
      have hne := stitchCandidates_ne_nil ctx available cluster.columns.toList hav
      cases hsd : stitchCandidates ctx available cluster.columns.toList with
      | nil => exact absurd hsd hne
      | cons y ys =>
        simp only [List.headD_cons]
        exact stitchCandidates_mem ctx available cluster.columns.toList y (by rw [hsd]; simp)
  have hbm : ∀ m, ctx.main = some m → bestStitchCol ctx (stitchCandidates ctx available cluster.columns.toList) = m := by
    intro m hm; unfold bestStitchCol; rw [hm]
  generalize bestStitchCol ctx (stitchCandidates ctx available cluster.columns.toList) = bestCol at hbest hbm ⊢
  generalize (if DERIVED_COLS_RESERVED * mw > cluster.totalEntropy then DERIVED_COLS_RESERVED * mw else cluster.totalEntropy) = tw
  obtain ⟨m1, m2, m3⟩ := stitchSet_mem mw th w bestCol tw (stitchCandidates ctx available cluster.columns.toList)
  refine ⟨trivial, ?_, (CSet_toList_perm _).nodup_iff.mpr m3, ?_, ?_, ?_⟩
  · intro he
    have := (CSet.mem_toList _ bestCol).mpr m1
    rw [he] at this; simp at this
  · intro s hsm
    rcases m2 s ((CSet.mem_toList _ s).mp hsm) with rfl | ⟨y, hy, rfl⟩
    · exact hbest
    · exact stitchCandidates_mem ctx available cluster.columns.toList y hy
  · intro m hm
    rw [← hbm m hm]; exact (CSet.mem_toList _ bestCol).mpr m1
  · intro x
    rw [CSet.mem_update, CSet.mem_toList]

/-- the derived clusters of a plan, given the columns introduced before them -/
def DerivedOK (main : Option Nat) : List Nat → List DerivedCluster → Prop
  | _, [] => True
  | intro, dc :: rest =>
      dc.stitch ≠ [] ∧ dc.stitch.Nodup ∧ (∀ s ∈ dc.stitch, s ∈ intro) ∧ (∀ m, main = some m → m ∈ dc.stitch) ∧ dc.derived ≠ [] ∧
        DerivedOK main (intro ++ dc.derived) rest

/-- stitch columns are introduced earlier: in the columns given at the start or among the derived columns of the plan -/
theorem DerivedOK.stitch_mem {main : Option Nat} : ∀ {intro : List Nat} {l : List DerivedCluster}, DerivedOK main intro l →
    ∀ dc ∈ l, ∀ x ∈ dc.stitch, x ∈ intro ∨ ∃ d ∈ l, x ∈ d.derived
  | _, [], _, dc, hdc, _, _ => by cases hdc
  | intro, d :: rest, ⟨_, _, hsub, _, _, hrest⟩, dc, hdc, x, hx => by
    rcases List.mem_cons.mp hdc with rfl | hdc
    · exact Or.inl (hsub x hx)
    · rcases hrest.stitch_mem dc hdc x hx with h1 | ⟨d', hd', h1⟩
      · exact (List.mem_append.mp h1).imp_right fun h2 => ⟨d, List.mem_cons_self .., h2⟩
      · exact Or.inr ⟨d', List.mem_cons_of_mem _ hd', h1⟩

theorem deriveClusters_spec (ctx : ClusteringContext) (mw th : Float) (w : Array Float) :
    ∀ (others : List MutableCluster) (available : CSet) (intro : List Nat),
      (∀ x, x ∈ available.elems ↔ x ∈ intro) → available.elems ≠ [] →
      (∀ m, ctx.main = some m → m ∈ available.elems) → (∀ c ∈ others, c.columns.elems ≠ []) →
      DerivedOK ctx.main intro (deriveClusters ctx mw th w available others) ∧
      ((deriveClusters ctx mw th w available others).map (·.derived)).flatten.Perm (assigned others) := by
  intro others
  induction others with
  | nil => intro available intro _ _ _ _; simp [deriveClusters, DerivedOK, assigned]
  | cons cl rest ih =>
    intro available intro hav hne hmain hcl
    obtain ⟨h1, h2, h2n, h3, h4, h5⟩ := stitchFor_spec ctx mw th w available cl hne hmain
    simp only [deriveClusters]
    have hclne : cl.columns.elems ≠ [] := hcl cl (by simp)
    have hder_ne : (stitchFor ctx mw th w available cl).1.derived ≠ [] := by
      rw [h1]; intro he
      obtain ⟨a, ha⟩ := List.exists_mem_of_ne_nil _ hclne
      have := (CSet.mem_toList cl.columns a).mpr ha
      rw [he] at this; simp at this
    have hrec := ih (stitchFor ctx mw th w available cl).2 (intro ++ (stitchFor ctx mw th w available cl).1.derived)
      (by intro x; rw [h5, h1, List.mem_append, hav, CSet.mem_toList])
      (by
        obtain ⟨a, ha⟩ := List.exists_mem_of_ne_nil _ hne
        intro he
        have : a ∈ (stitchFor ctx mw th w available cl).2.elems := (h5 a).mpr (Or.inl ha)
        rw [he] at this; simp at this)
      (fun m hm => (h5 m).mpr (Or.inl (hmain m hm)))
      (fun c hc => hcl c (by simp [hc]))
    refine ⟨⟨h2, h2n, fun s hs => (hav s).mp (h3 s hs), h4, hder_ne, hrec.1⟩, ?_⟩
    simp only [List.map_cons, List.flatten_cons, assigned]
    rw [h1]
    exact List.Perm.append (CSet_toList_perm _) hrec.2

theorem DerivedOK_congr (main : Option Nat) : ∀ (dcs : List DerivedCluster) (i1 i2 : List Nat), (∀ x, x ∈ i1 ↔ x ∈ i2) →
    DerivedOK main i1 dcs → DerivedOK main i2 dcs := by
  intro dcs
  induction dcs with
  | nil => intro _ _ _ _; trivial
  | cons dc rest ih =>
    intro i1 i2 h hd
    obtain ⟨a, b, c, d, e, f⟩ := hd
    exact ⟨a, b, fun s hs => (h s).mp (c s hs), d, e, ih _ _ (fun x => by simp only [List.mem_append, h x]) f⟩

/-! ### the annealing loop only ever handles permutations -/

theorem swapAt_perm (l : List Nat) (i j : Nat) (hi : i < l.length) (hj : j < l.length) (hij : i ≠ j) : (swapAt l i j).Perm l := by
  rw [List.perm_iff_count]
  intro b
  unfold swapAt
  have hx : l.getD i 0 = l[i] := by simp [List.getD_eq_getElem?_getD, hi]
  have hy : l.getD j 0 = l[j] := by simp [List.getD_eq_getElem?_getD, hj]
  rw [hx, hy]
  have hj' : j < (l.set i l[j]).length := by simpa using hj
  rw [List.count_set hj', List.count_set hi]
  have hget : (l.set i l[j])[j] = l[j] := by
    rw [List.getElem_set]; simp [hij]
  rw [hget]
  have hpos : (if l[i] == b then 1 else 0) ≤ l.count b := by
    split_ifs with h
    · simp only [beq_iff_eq] at h
      exact List.count_pos_iff.mpr (h ▸ List.getElem_mem hi)
    · exact Nat.zero_le _
  omega

theorem drawOther_ok (n i : Nat) : ∀ (fuel : Nat) (s s' : List (Draw Float)) (j : Nat),
    (drawOther n i fuel).run s = .ok (j, s') → (j : Int) ≤ (n : Int) - 1 ∧ i ≠ j := by
  intro fuel
  induction fuel with
  | zero => intro s s' j h; cases h
  | succ f ih =>
    intro s s' j h
    unfold drawOther at h
    obtain ⟨k, s1, h1, h2⟩ := StateT_bind_ok h
    have hk := drawInt_ok _ _ s s1 k h1
    split_ifs at h2 with he
    · exact ih s1 s' j h2
    · obtain ⟨rfl, _⟩ := StateT_pure_ok h2
      exact ⟨hk.2.1, by simpa using he⟩

/-- the two solutions the annealer carries are permutations of the columns -/
def AnnealInv (n : Nat) (st : AnnealState) : Prop := st.current.Perm (List.range n) ∧ st.best.Perm (List.range n)

theorem annealUpdate_inv (evaluate : List Nat → Float) (n : Nat) (alpha : Float) (st : AnnealState) (newSol : List Nat) (accept : Bool)
    (hinv : AnnealInv n st) (hnew : newSol.Perm (List.range n)) : AnnealInv n (annealUpdate evaluate alpha st newSol accept) := by
  unfold annealUpdate
  have h1 : AnnealInv n (if accept then { st with current := newSol, currentEnergy := evaluate newSol } else st) := by
    split_ifs
    · exact ⟨hnew, hinv.2⟩
    · exact hinv
  generalize (if accept then { st with current := newSol, currentEnergy := evaluate newSol } else st) = st1 at h1
  simp only
  split_ifs
  · exact ⟨h1.1, h1.1⟩
  · exact h1

theorem annealStep_inv (evaluate : List Nat → Float) (n : Nat) (alpha : Float) (st st' : AnnealState) (s s' : List (Draw Float))
    (hinv : AnnealInv n st) (h : (annealStep evaluate n alpha st).run s = .ok (st', s')) : AnnealInv n st' := by
  unfold annealStep at h
  obtain ⟨i, s1, h1, h⟩ := StateT_bind_ok h
  obtain ⟨j, s2, h2, h⟩ := StateT_bind_ok h
  obtain ⟨acc, s3, _, h⟩ := StateT_bind_ok h
  obtain ⟨rfl, _⟩ := StateT_pure_ok h
  have hi := drawInt_ok _ _ _ _ _ h1
  have hj := drawOther_ok n i _ _ _ _ h2
  have hlen : st.current.length = n := by rw [hinv.1.length_eq]; simp
  exact annealUpdate_inv evaluate n alpha st _ acc hinv
    ((swapAt_perm st.current i j (by omega) (by omega) hj.2).trans hinv.1)

theorem annealLoop_inv (evaluate : List Nat → Float) (n : Nat) (alpha : Float) : ∀ (fuel : Nat) (st st' : AnnealState)
    (s s' : List (Draw Float)), AnnealInv n st → (annealLoop evaluate n alpha fuel st).run s = .ok (st', s') → AnnealInv n st' := by
  intro fuel
  induction fuel with
  | zero => intro st st' s s' _ h; cases h
  | succ f ih =>
    intro st st' s s' hinv h
    unfold annealLoop at h
    split_ifs at h with hc
    · obtain ⟨st1, s1, h1, h2⟩ := StateT_bind_ok h
      exact ih st1 st' s1 s' (annealStep_inv evaluate n alpha st st1 s s1 hinv h1) h2
    · obtain ⟨rfl, _⟩ := StateT_pure_ok h
      exact hinv
