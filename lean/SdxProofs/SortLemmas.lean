import SdxModel.Anonymizer
import Mathlib.Tactic.Linarith
set_option linter.unusedSectionVars false
/-!
`sorted(contributions.items(), key=(count, pid), reverse=True)`: the result is the unique arrangement that is
decreasing in the key `(count, pid)`. From that: raising the contributions of the entities that already head the
list leaves them at the head and the tail untouched.
-/

theorem insertDesc_perm (x : UInt64 × Nat) (l : List (UInt64 × Nat)) : (insertDesc x l).Perm (x :: l) := by
  induction l with
  | nil => simp [insertDesc]
  | cons y ys ih =>
    unfold insertDesc
    split_ifs
    · exact List.Perm.refl _
    · exact (List.Perm.cons y ih).trans (List.Perm.swap x y ys)

theorem sortDesc_perm (l : List (UInt64 × Nat)) : (sortDesc l).Perm l := by
  induction l with
  | nil => simp [sortDesc]
  | cons x xs ih => exact (insertDesc_perm x _).trans (List.Perm.cons x ih)

/-- `a` is not behind `b`: `key a ≥ key b` for the key `(count, pid)` -/
def keyGe (a b : UInt64 × Nat) : Prop := ¬ (b.2 > a.2 ∨ (b.2 = a.2 ∧ b.1 > a.1))

theorem keyGe_iff (a b : UInt64 × Nat) : keyGe a b ↔ (a.2 > b.2 ∨ (a.2 = b.2 ∧ a.1.toNat ≥ b.1.toNat)) := by
  unfold keyGe
  have : b.1 > a.1 ↔ b.1.toNat > a.1.toNat := UInt64.lt_iff_toNat_lt
  rw [this]
  omega

theorem keyGe_trans {a b c : UInt64 × Nat} (h1 : keyGe a b) (h2 : keyGe b c) : keyGe a c := by
  rw [keyGe_iff] at *; omega

theorem keyGe_antisymm {a b : UInt64 × Nat} (h1 : keyGe a b) (h2 : keyGe b a) : a = b := by
  rw [keyGe_iff] at *
  have h3 : a.2 = b.2 := by omega
  have h4 : a.1.toNat = b.1.toNat := by omega
  exact Prod.ext (UInt64.toNat_inj.mp h4) h3

theorem keyGe_total (a b : UInt64 × Nat) : keyGe a b ∨ keyGe b a := by
  rw [keyGe_iff, keyGe_iff]; omega

theorem keyGe_snd_le {a b : UInt64 × Nat} (h : keyGe a b) : b.2 ≤ a.2 := by
  rw [keyGe_iff] at h; omega

theorem insertDesc_cond (x y : UInt64 × Nat) :
    ((decide (x.2 > y.2) || (x.2 == y.2 && decide (x.1 > y.1))) = true) ↔ ¬ keyGe y x := by
  unfold keyGe
  simp only [Bool.or_eq_true, decide_eq_true_eq, Bool.and_eq_true, beq_iff_eq, not_not]

theorem insertDesc_sortedKey (x : UInt64 × Nat) (l : List (UInt64 × Nat)) (h : l.Pairwise keyGe) :
    (insertDesc x l).Pairwise keyGe := by
  induction l with
  | nil => simp [insertDesc]
  | cons y ys ih =>
    have hy := List.pairwise_cons.mp h
    unfold insertDesc
    split_ifs with hc
    · have hxy : keyGe x y := (keyGe_total x y).resolve_right ((insertDesc_cond x y).mp hc)
      exact List.pairwise_cons.mpr
        ⟨fun b hb => (List.mem_cons.mp hb).elim (fun e => e ▸ hxy) fun hb => keyGe_trans hxy (hy.1 b hb), h⟩
    · have hyx : keyGe y x := not_not.mp (mt (insertDesc_cond x y).mpr hc)
      exact List.pairwise_cons.mpr
        ⟨fun b hb => (List.mem_cons.mp ((insertDesc_perm x ys).mem_iff.mp hb)).elim (fun e => e ▸ hyx) (hy.1 b), ih hy.2⟩

theorem sortDesc_sortedKey (l : List (UInt64 × Nat)) : (sortDesc l).Pairwise keyGe := by
  induction l with
  | nil => simp [sortDesc]
  | cons x xs ih => exact insertDesc_sortedKey x _ ih

/-- the contributions handed to the flattening are sorted decreasingly -/
theorem sortDesc_sorted (l : List (UInt64 × Nat)) : (sortDesc l).Pairwise (fun a b => a.2 ≥ b.2) :=
  (sortDesc_sortedKey l).imp keyGe_snd_le

/-- the sorted list is the only key-decreasing arrangement -/
theorem sortDesc_unique (l m : List (UInt64 × Nat)) (hp : l.Perm m) (hm : m.Pairwise keyGe) : sortDesc l = m :=
  List.Perm.eq_of_pairwise (fun _ _ _ _ h1 h2 => keyGe_antisymm h1 h2) (sortDesc_sortedKey l) hm ((sortDesc_perm l).trans hp)

/-- the entities listed in `ids` contribute `f pid` more rows -/
def raiseContrib (ids : List UInt64) (f : UInt64 → Nat) (p : UInt64 × Nat) : UInt64 × Nat :=
  if ids.contains p.1 then (p.1, p.2 + f p.1) else p

theorem raiseContrib_fst (ids : List UInt64) (f : UInt64 → Nat) (p : UInt64 × Nat) : (raiseContrib ids f p).1 = p.1 := by
  unfold raiseContrib; split_ifs <;> rfl

/-- raising a contribution moves its entity forward only -/
theorem keyGe_raise (ids : List UInt64) (f : UInt64 → Nat) {a b : UInt64 × Nat} (h : keyGe a b) :
    keyGe (raiseContrib ids f a) b := by
  unfold raiseContrib
  split_ifs
  · rw [keyGe_iff] at h ⊢; simp only; omega
  · exact h

/-- Raising the contributions of the entities at the head of the sorted list keeps them at the head (in some order)
and leaves the rest of the sorted list exactly as it was. -/
theorem raise_heaviest_shape (l : List (UInt64 × Nat)) (hnd : (l.map (·.1)).Nodup) (hd tl : List (UInt64 × Nat))
    (hs : sortDesc l = hd ++ tl) (f : UInt64 → Nat) :
    ∃ hd', sortDesc (l.map (raiseContrib (hd.map (·.1)) f)) = hd' ++ tl ∧ hd'.length = hd.length ∧
      (hd.map (·.1)).Perm (hd'.map (·.1)) ∧ (∀ a ∈ hd', ∀ b ∈ tl, b.2 ≤ a.2) := by
  set ids := hd.map (·.1) with hids
  have hperm : l.Perm (hd ++ tl) := by rw [← hs]; exact (sortDesc_perm l).symm
  have hsorted : (hd ++ tl).Pairwise keyGe := by rw [← hs]; exact sortDesc_sortedKey l
  have hnd' : ((hd ++ tl).map (·.1)).Nodup := (hperm.map _).nodup_iff.mp hnd
  rw [List.map_append, List.nodup_append] at hnd'
  -- the tail is untouched: its ids are not among those raised
  have htl : tl.map (raiseContrib ids f) = tl := by
    conv_rhs => rw [← List.map_id tl]
    refine List.map_congr_left fun b hb => if_neg ?_
    rw [List.contains_eq_mem, decide_eq_true_eq]
    exact fun hmem => hnd'.2.2 b.1 hmem b.1 (List.mem_map.mpr ⟨b, hb, rfl⟩) rfl
  -- the raised head, in any order, still precedes the tail
  have hhead : ∀ a' ∈ sortDesc (hd.map (raiseContrib ids f)), ∀ b ∈ tl, keyGe a' b := by
    intro a' ha' b hb
    obtain ⟨a, ha, rfl⟩ := List.mem_map.mp ((sortDesc_perm _).mem_iff.mp ha')
    exact keyGe_raise ids f ((List.pairwise_append.mp hsorted).2.2 a ha b hb)
  refine ⟨sortDesc (hd.map (raiseContrib ids f)), ?_, ?_, ?_, fun a' ha' b hb => keyGe_snd_le (hhead a' ha' b hb)⟩
  · apply sortDesc_unique
    · refine (hperm.map _).trans ?_
      rw [List.map_append, htl]
      exact ((sortDesc_perm _).symm).append_right tl
    · exact List.pairwise_append.mpr ⟨sortDesc_sortedKey _, (List.pairwise_append.mp hsorted).2.1, hhead⟩
  · rw [(sortDesc_perm _).length_eq, List.length_map]
  · refine List.Perm.symm (((sortDesc_perm _).map _).trans ?_)
    rw [List.map_map]
    exact List.Perm.of_eq (List.map_congr_left fun p _ => raiseContrib_fst ids f p)
