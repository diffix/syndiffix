import SdxProofs.StitchLemmas
import SdxProofs.Field
set_option linter.unusedSectionVars false
/-! Row count of a stitch with shared ownership (over an ordered field, balance threshold 7/10). -/

/-- both sides within a factor 0.7 of the result -/
def RowsBalanced (a b n : Nat) : Prop := 7 * max a b ≤ 10 * n ∧ 7 * n ≤ 10 * min a b
/-- C12's interval `[min(0.7·max(L,R), min(L,R)), max(min(L,R)/0.7, max(L,R))]` (in integers) -/
def WithinOwnerBounds (a b n : Nat) : Prop := (min a b ≤ n ∧ n ≤ max a b) ∨ RowsBalanced a b n

theorem RowsBalanced.add {a1 b1 n1 a2 b2 n2 : Nat} (h1 : RowsBalanced a1 b1 n1) (h2 : RowsBalanced a2 b2 n2) :
    RowsBalanced (a1 + a2) (b1 + b2) (n1 + n2) := by
  unfold RowsBalanced at *
  omega

section
variable {α : Type} [Field α] [LinearOrder α] [IsStrictOrderedRing α] [FloorRing α] [Inhabited α]
variable {β : Type} [Inhabited β]

theorem acceptable_iff (a b : Nat) : acceptableDistribution ((7 : α) / 10) a b = true ↔ 0 < min a b ∧ 7 * max a b ≤ 10 * min a b := by
  unfold acceptableDistribution
  simp only
  split_ifs with h0
  · simp [beq_iff_eq.mp h0]
  · have hpos : 0 < min a b := Nat.pos_of_ne_zero (by simpa using h0)
    have hmax : (0 : α) < ((max a b : Nat) : α) := Nat.cast_pos.mpr (hpos.trans_le ((min_le_left a b).trans (le_max_left a b)))
    rw [decide_eq_true_eq, ofInt_eq, ofInt_eq, Int.ofNat_eq_natCast, Int.ofNat_eq_natCast, Int.cast_natCast, Int.cast_natCast,
      div_le_div_iff₀ (by norm_num) hmax, mul_comm _ (10 : α)]
    exact ⟨fun h => ⟨hpos, by exact_mod_cast h⟩, fun h => by exact_mod_cast h.2⟩

/-- the terminal merge with shared ownership produces `round((L+R)/2)` rows: between the two sizes -/
theorem mergeCount_shared_between (l r : Nat) :
    min l r ≤ mergeCount (α := α) .shared l r ∧ mergeCount (α := α) .shared l r ≤ max l r := by
  have hmin : (((min l r : Nat) : Int) : α) ≤ ((l + r : Nat) : α) / 2 := by
    rw [le_div_iff₀ two_pos, mul_two]; push_cast
    exact add_le_add (min_le_left _ _) (min_le_right _ _)
  have hmax : ((l + r : Nat) : α) / 2 ≤ (((max l r : Nat) : Int) : α) := by
    rw [div_le_iff₀ two_pos, mul_two]; push_cast
    exact add_le_add (le_max_left _ _) (le_max_right _ _)
  have h1 := le_roundHE hmin
  have h2 := roundHE_le hmax
  unfold mergeCount
  simp only [ofInt_eq, Int.ofNat_eq_natCast, Int.cast_natCast, Int.cast_ofNat]
  omega

/-- what the count of a shared-ownership stitch satisfies: within the owner bounds, and balanced if the pair was balanced -/
def CountOK (a b n : Nat) : Prop :=
  WithinOwnerBounds a b n ∧ ((0 < min a b ∧ 7 * max a b ≤ 10 * min a b) → RowsBalanced a b n)

theorem countOK_terminal (l r n : Nat) (h1 : min l r ≤ n) (h2 : n ≤ max l r) : CountOK l r n := by
  refine ⟨Or.inl ⟨h1, h2⟩, fun ⟨_, hb⟩ => ?_⟩
  unfold RowsBalanced; omega

theorem stitchRec_count (c : StitchCtx α) (hth : c.threshRel = (7 : α) / 10) (hown : c.owner = .shared) :
    ∀ (fuel : Nat) (st : StitchState α) (left right result : List (MRow β α)) (s s' : List (Draw α)),
      (stitchRec c fuel st left right).run s = .ok (result, s') → CountOK left.length right.length result.length := by
  refine stitchRec_induct c (fun l r res => CountOK l.length r.length res.length) ?_ ?_ ?_
  · intro l r res s s' h
    obtain ⟨_, _, _, _, _, _, _, _, _, rfl⟩ := mergeMicrodata_ok c l r res s s' h
    rw [List.length_map, List.length_range, hown]
    exact countOK_terminal _ _ _ (mergeCount_shared_between _ _).1 (mergeCount_shared_between _ _).2
  · intro l l' r r' res pl pr h
    rwa [pl.length_eq, pr.length_eq] at h
  · intro l r i j lo up a1 a2 c1 c2
    rw [hth] at a1 a2
    have hsum := (c1.2 ((acceptable_iff (α := α) _ _).mp a1)).add (c2.2 ((acceptable_iff (α := α) _ _).mp a2))
    rw [← List.length_append, ← List.length_append, List.take_append_drop, List.take_append_drop, ← List.length_append] at hsum
    exact ⟨Or.inr hsum, fun _ => hsum⟩

end
