import SdxModel.Stitch
import SdxProofs.MonadLemmas
import SdxProofs.ListLemmas
import Mathlib.Data.List.Perm.Basic
import Mathlib.Data.List.Range
/-! Structural lemmas about `clustering/stitching.py` (rows are opaque; no arithmetic facts are used here). -/

section
variable {α : Type} [Add α] [Sub α] [Mul α] [Div α] [LT α] [LE α] [BEq α]
  [DecidableLT α] [DecidableLE α] [ScalarOps α] [Inhabited α]
variable {β : Type} [Inhabited β]

theorem insertAsc_perm {γ : Type} (lt : γ → γ → Bool) (x : γ) (l : List γ) : (insertAsc lt x l).Perm (x :: l) := by
  induction l with
  | nil => exact .refl _
  | cons y ys ih =>
    unfold insertAsc
    split_ifs
    · exact (ih.cons y).trans (.swap x y ys)
    · exact .refl _

theorem sortAscStable_perm {γ : Type} (lt : γ → γ → Bool) (l : List γ) : (sortAscStable lt l).Perm l :=
  List.foldr_insert_perm (insertAsc_perm lt) l

theorem sortRows_perm (idx : List Nat) (rows : List (MRow β α)) : (sortRows idx rows).Perm rows :=
  sortAscStable_perm _ rows

/-- aligning a table to a length only repeats or drops its own rows (extending an empty table fails: `randint(0, -1)`) -/
theorem alignLength_ok (len : Nat) (table r : List (MRow β α)) (s s' : List (Draw α))
    (h : (alignLength len table).run s = .ok (r, s')) :
    (∀ x ∈ r, x ∈ table) ∧ r.length = len ∧ (len = table.length → r = table) := by
  unfold alignLength at h
  simp only at h
  split_ifs at h with h1 h2
  · obtain ⟨rfl, _⟩ := StateT_pure_ok h
    exact ⟨fun x hx => hx, (beq_iff_eq.mp h1).symm, fun _ => rfl⟩
  · obtain ⟨rfl, _⟩ := StateT_pure_ok h
    exact ⟨fun x hx => List.mem_of_mem_take hx, by simp; omega, fun he => by omega⟩
  · obtain ⟨extra, s1, hm, h⟩ := StateT_bind_ok h
    obtain ⟨rfl, _⟩ := StateT_pure_ok h
    have hall := mapM_forall₂_of_ok _ (fun (_ : Nat) (y : MRow β α) => y ∈ table) _
      (fun k _ st y st1 hk => by
        obtain ⟨i, s2, hi, hk⟩ := StateT_bind_ok hk
        obtain ⟨rfl, _⟩ := StateT_pure_ok hk
        have hb := drawInt_ok _ _ _ _ _ hi
        exact List.getD_mem _ _ _ (by omega)) s extra s1 hm
    have hlen := hall.length_eq
    simp only [beq_iff_eq] at h1
    refine ⟨fun x hx => ?_, by simp at hlen ⊢; omega, fun he => absurd he (by omega)⟩
    exact (List.mem_append.mp hx).elim id (forall₂_right _ _ _ hall x)

/-- `result` is made of merges of actual left rows with actual right rows; with the left side as owner every left row
is used exactly once and the shared cells are the left row's. -/
def StitchedFrom (cols : List ColumnLocation) (owner : StitchOwner) (left right result : List (MRow β α)) : Prop :=
  ∃ pairs : List (MRow β α × MRow β α × Bool),
    result = pairs.map (fun t => mergeRow cols t.2.2 t.1 t.2.1) ∧
    (∀ t ∈ pairs, t.1 ∈ left ∧ t.2.1 ∈ right) ∧
    (owner = .left → (pairs.map (·.1)).Perm left ∧ ∀ t ∈ pairs, t.2.2 = true)

theorem StitchedFrom.of_perm {cols : List ColumnLocation} {owner : StitchOwner} {left left' right right' result : List (MRow β α)}
    (hl : left'.Perm left) (hr : right'.Perm right) (h : StitchedFrom cols owner left' right' result) :
    StitchedFrom cols owner left right result := by
  obtain ⟨pairs, h1, h2, h3⟩ := h
  exact ⟨pairs, h1, fun t ht => ⟨hl.mem_iff.mp (h2 t ht).1, hr.mem_iff.mp (h2 t ht).2⟩,
    fun ho => ⟨(h3 ho).1.trans hl, (h3 ho).2⟩⟩

theorem StitchedFrom.append {cols : List ColumnLocation} {owner : StitchOwner} {l1 l2 r1 r2 res1 res2 : List (MRow β α)}
    (h1 : StitchedFrom cols owner l1 r1 res1) (h2 : StitchedFrom cols owner l2 r2 res2) :
    StitchedFrom cols owner (l1 ++ l2) (r1 ++ r2) (res1 ++ res2) := by
  obtain ⟨p1, a1, b1, c1⟩ := h1
  obtain ⟨p2, a2, b2, c2⟩ := h2
  refine ⟨p1 ++ p2, by simp [a1, a2], ?_, ?_⟩
  · intro t ht
    rcases List.mem_append.mp ht with ht | ht
    · exact ⟨List.mem_append_left _ (b1 t ht).1, List.mem_append_left _ (b1 t ht).2⟩
    · exact ⟨List.mem_append_right _ (b2 t ht).1, List.mem_append_right _ (b2 t ht).2⟩
  · intro ho
    refine ⟨by simpa using List.Perm.append (c1 ho).1 (c2 ho).1, ?_⟩
    intro t ht
    rcases List.mem_append.mp ht with ht | ht
    · exact (c1 ho).2 t ht
    · exact (c2 ho).2 t ht

theorem StitchedFrom.nil {cols : List ColumnLocation} {owner : StitchOwner} : StitchedFrom (β := β) (α := α) cols owner [] [] [] :=
  ⟨[], rfl, nofun, fun _ => ⟨.refl _, nofun⟩⟩

/-- with the left side as owner the result has as many rows as the left table -/
theorem StitchedFrom.length_eq {cols : List ColumnLocation} {left right result : List (MRow β α)}
    (h : StitchedFrom cols .left left right result) : result.length = left.length := by
  obtain ⟨pairs, rfl, _, hown⟩ := h
  simpa using (hown rfl).1.length_eq

/-- what a successful terminal merge is made of: both sides non-empty, shuffled, aligned to the merge count `n`, sorted -/
theorem mergeMicrodata_ok (c : StitchCtx α) (left right result : List (MRow β α)) (s s' : List (Draw α))
    (h : (mergeMicrodata c left right).run s = .ok (result, s')) :
    left ≠ [] ∧ right ≠ [] ∧ ∃ l2 r2 : List (MRow β α),
      (∀ x ∈ l2, x ∈ left) ∧ (∀ x ∈ r2, x ∈ right) ∧
      l2.length = mergeCount (α := α) c.owner left.length right.length ∧
      r2.length = mergeCount (α := α) c.owner left.length right.length ∧
      (mergeCount (α := α) c.owner left.length right.length = left.length → l2.Perm left) ∧
      result = (List.range (mergeCount (α := α) c.owner left.length right.length)).map fun i =>
        mergeRow c.cols (pickLeft c.owner i) ((sortRows c.leftIdx l2).getD i []) ((sortRows c.rightIdx r2).getD i []) := by
  unfold mergeMicrodata at h
  by_cases he : (left.isEmpty || right.isEmpty) = true
  · rw [if_pos he] at h; cases h
  · rw [if_neg he] at h
    simp only [Bool.or_eq_true, List.isEmpty_iff, not_or] at he
    obtain ⟨l1, s1, hl1, h⟩ := StateT_bind_ok h
    obtain ⟨l2, s2, hl2, h⟩ := StateT_bind_ok h
    obtain ⟨r1, s3, hr1, h⟩ := StateT_bind_ok h
    obtain ⟨r2, s4, hr2, h⟩ := StateT_bind_ok h
    obtain ⟨rfl, _⟩ := StateT_pure_ok h
    have pl1 := drawShuffle_ok left l1 s s1 hl1
    have pr1 := drawShuffle_ok right r1 s2 s3 hr1
    obtain ⟨al1, al2, al3⟩ := alignLength_ok _ l1 l2 s1 s2 hl2
    obtain ⟨ar1, ar2, _⟩ := alignLength_ok _ r1 r2 s3 s4 hr2
    exact ⟨he.1, he.2, l2, r2, fun x hx => pl1.mem_iff.mp (al1 x hx), fun x hx => pr1.mem_iff.mp (ar1 x hx), al2, ar2,
      fun hn => (al3 (hn.trans pl1.length_eq.symm)) ▸ pl1, rfl⟩

/-- T12.a/b for the terminal merge -/
theorem mergeMicrodata_spec (c : StitchCtx α) (left right result : List (MRow β α)) (s s' : List (Draw α))
    (h : (mergeMicrodata c left right).run s = .ok (result, s')) : StitchedFrom c.cols c.owner left right result := by
  obtain ⟨_, _, l2, r2, hl, hr, hll, hrl, hperm, rfl⟩ := mergeMicrodata_ok c left right result s s' h
  have hown : c.owner = .left → mergeCount (α := α) c.owner left.length right.length = left.length := fun ho => by rw [ho]; rfl
  generalize mergeCount (α := α) c.owner left.length right.length = n at hll hrl hperm hown
  have hl3 : (sortRows c.leftIdx l2).length = n := (sortRows_perm _ _).length_eq.trans hll
  have hr3 : (sortRows c.rightIdx r2).length = n := (sortRows_perm _ _).length_eq.trans hrl
  refine ⟨(List.range n).map (fun i => ((sortRows c.leftIdx l2).getD i [], (sortRows c.rightIdx r2).getD i [], pickLeft c.owner i)),
    by simp [List.map_map, Function.comp_def], ?_, ?_⟩
  · intro t ht
    obtain ⟨i, hi, rfl⟩ := List.mem_map.mp ht
    have hi' : i < n := List.mem_range.mp hi
    exact ⟨hl _ ((sortRows_perm _ _).mem_iff.mp (List.getD_mem _ _ _ (hl3 ▸ hi'))),
      hr _ ((sortRows_perm _ _).mem_iff.mp (List.getD_mem _ _ _ (hr3 ▸ hi')))⟩
  · intro ho
    refine ⟨?_, fun t ht => ?_⟩
    · simp only [List.map_map, Function.comp_def, ← hl3, List.map_getD_range]
      exact (sortRows_perm _ _).trans (hperm (hown ho))
    · obtain ⟨i, _, rfl⟩ := List.mem_map.mp ht
      simp [ho, pickLeft]

theorem presort_perm (c : StitchCtx α) (st : StitchState α) (left right : List (MRow β α)) :
    (presort c st left right).1.Perm left ∧ (presort c st left right).2.Perm right := by
  unfold presort
  split_ifs
  · exact ⟨sortRows_perm _ _, sortRows_perm _ _⟩
  · exact ⟨List.Perm.refl _, List.Perm.refl _⟩

/-- One rule for every property `P left right result` of the stitching recursion: it holds of a terminal merge, does not depend on the
order of the rows of the two inputs, and is kept when a pair of tables that splits acceptably is stitched half by half. -/
theorem stitchRec_induct (c : StitchCtx α) (P : List (MRow β α) → List (MRow β α) → List (MRow β α) → Prop)
    (hmerge : ∀ l r res s s', (mergeMicrodata c l r).run s = .ok (res, s') → P l r res)
    (hperm : ∀ l l' r r' res, l'.Perm l → r'.Perm r → P l' r' res → P l r res)
    (hsplit : ∀ l r i j lo up, acceptableDistribution c.threshRel (l.take i).length (r.take j).length = true →
      acceptableDistribution c.threshRel (l.drop i).length (r.drop j).length = true →
      P (l.take i) (r.take j) lo → P (l.drop i) (r.drop j) up → P l r (lo ++ up)) :
    ∀ (fuel : Nat) (st : StitchState α) (left right result : List (MRow β α)) (s s' : List (Draw α)),
      (stitchRec c fuel st left right).run s = .ok (result, s') → P left right result := by
  intro fuel
  induction fuel with
  | zero => intro st left right result s s' h; cases h
  | succ f ih =>
    intro st left right result s s' h
    unfold stitchRec at h
    by_cases h1 : (st.attempts == 0 || left.length == 1 || right.length == 1) = true
    · rw [if_pos h1] at h; exact hmerge _ _ _ _ _ h
    rw [if_neg h1] at h
    by_cases h2 : canSplit c st = true
    · rw [if_pos h2] at h
      obtain ⟨pl, pr⟩ := presort_perm c st left right
      refine hperm _ _ _ _ _ pl pr ?_
      generalize (presort c st left right).1 = L at h ⊢
      generalize (presort c st left right).2 = R at h ⊢
      unfold stitchSplit at h
      simp only at h
      generalize (max 0 (binarySearch L _ _ _ _ _)).toNat = i at h
      generalize (max 0 (binarySearch R _ _ _ _ _)).toNat = j at h
      by_cases hacc : (acceptableDistribution c.threshRel (L.take i).length (R.take j).length &&
          acceptableDistribution c.threshRel (L.drop i).length (R.drop j).length) = true
      · rw [if_pos hacc] at h
        obtain ⟨lo, s1, hlo, h⟩ := StateT_bind_ok h
        obtain ⟨up, s2, hup, h⟩ := StateT_bind_ok h
        obtain ⟨rfl, _⟩ := StateT_pure_ok h
        rw [Bool.and_eq_true] at hacc
        exact hsplit L R i j lo up hacc.1 hacc.2 (ih _ _ _ _ _ _ hlo) (ih _ _ _ _ _ _ hup)
      · rw [if_neg hacc] at h; exact ih _ _ _ _ _ _ h
    · rw [if_neg h2] at h; exact ih _ _ _ _ _ _ h

/-- T12.a/b  for the whole recursion: whatever the split decisions, the result is made of merges of actual left rows with
actual right rows, and with the left side as owner the left table is preserved as a multiset. -/
theorem stitchRec_spec (c : StitchCtx α) : ∀ (fuel : Nat) (st : StitchState α) (left right result : List (MRow β α))
    (s s' : List (Draw α)), (stitchRec c fuel st left right).run s = .ok (result, s') →
    StitchedFrom c.cols c.owner left right result :=
  stitchRec_induct c (StitchedFrom c.cols c.owner) (mergeMicrodata_spec c) (fun _ _ _ _ _ => StitchedFrom.of_perm)
    (fun l r i j _ _ _ _ h1 h2 => by simpa using h1.append h2)

/-- what a successful `_do_stitch` is: the located columns, and either two empty tables or one run of the recursion on the two tables
with the cluster's owner, the located columns and the given threshold -/
theorem doStitch_run (snapped : List (Ival α)) (isIntegral : List Bool) (entropy : List α) (threshRel : α)
    (left right res : MTable β α) (dc : DerivedCluster) (s s' : List (Draw α))
    (h : (doStitch snapped isIntegral entropy threshRel left right dc).run s = .ok (res, s')) :
    res.2 = (locateColumns left.2 right.2).map (·.columnId) ∧
      ((res.1 = [] ∧ left.1 = [] ∧ right.1 = []) ∨
        ∃ (c : StitchCtx α) (fuel : Nat) (st : StitchState α), c.owner = dc.owner ∧ c.cols = locateColumns left.2 right.2 ∧
          c.threshRel = threshRel ∧ (stitchRec c fuel st left.1 right.1).run s = .ok (res.1, s')) := by
  unfold doStitch at h
  by_cases h0 : (left.2.isEmpty || dc.stitch.isEmpty || dc.derived.isEmpty) = true
  · rw [if_pos h0] at h; cases h
  rw [if_neg h0] at h
  by_cases h1 : (left.1.isEmpty && right.1.isEmpty) = true
  · rw [if_pos h1] at h; cases h
    simp only [Bool.and_eq_true, List.isEmpty_iff] at h1
    exact ⟨rfl, Or.inl ⟨rfl, h1.1, h1.2⟩⟩
  rw [if_neg h1] at h
  by_cases h2 : right.1.isEmpty = true
  · rw [if_pos h2] at h; cases h
  rw [if_neg h2] at h
  simp only at h
  split at h
  · obtain ⟨rows, s1, hr, h⟩ := StateT_bind_ok h
    cases h
    exact ⟨rfl, Or.inr ⟨_, _, _, rfl, rfl, rfl, hr⟩⟩
  · cases h

/-- T12.a/b  every successful stitch consists of merges of actual left rows with actual right rows -/
theorem doStitch_spec (snapped : List (Ival α)) (isIntegral : List Bool) (entropy : List α) (threshRel : α)
    (left right res : MTable β α) (dc : DerivedCluster) (s s' : List (Draw α))
    (h : (doStitch snapped isIntegral entropy threshRel left right dc).run s = .ok (res, s')) :
    res.2 = (locateColumns left.2 right.2).map (·.columnId) ∧
      StitchedFrom (locateColumns left.2 right.2) dc.owner left.1 right.1 res.1 := by
  obtain ⟨hc, ⟨h1, h2, h3⟩ | ⟨c, fuel, st, ho, hcols, _, hrun⟩⟩ :=
    doStitch_run snapped isIntegral entropy threshRel left right res dc s s' h
  · exact ⟨hc, by rw [h1, h2, h3]; exact .nil⟩
  · exact ⟨hc, ho ▸ hcols ▸ stitchRec_spec c fuel st _ _ _ _ _ hrun⟩

/-- T12.d  patching keeps the left rows in order and draws right cells from right rows only. -/
theorem doPatch_spec (left right : MTable β α) (res : MTable β α) (s s' : List (Draw α))
    (h : (doPatch left right).run s = .ok (res, s')) :
    ∃ rs : List (MRow β α), rs.length = left.1.length ∧ (∀ r ∈ rs, r ∈ right.1) ∧
      res.1 = (List.zip left.1 rs).map (fun p => mergeRow (locateColumns left.2 right.2) true p.1 p.2) ∧
      res.2 = (locateColumns left.2 right.2).map (·.columnId) := by
  unfold doPatch at h
  obtain ⟨r1, s1, hr1, h⟩ := StateT_bind_ok h
  split_ifs at h
  · cases h
  · obtain ⟨r2, s2, hr2, h⟩ := StateT_bind_ok h
    obtain ⟨rfl, _⟩ := StateT_pure_ok h
    obtain ⟨a1, a2, _⟩ := alignLength_ok left.1.length r1 r2 s1 s2 hr2
    exact ⟨r2, a2, fun r hr => (drawShuffle_ok right.1 r1 s s1 hr1).mem_iff.mp (a1 r hr), rfl, rfl⟩

/-- patching is stitching with the left side as owner -/
theorem doPatch_stitched (left right res : MTable β α) (s s' : List (Draw α)) (h : (doPatch left right).run s = .ok (res, s')) :
    res.2 = (locateColumns left.2 right.2).map (·.columnId) ∧
      StitchedFrom (locateColumns left.2 right.2) .left left.1 right.1 res.1 := by
  obtain ⟨rs, hlen, hmem, hres, hcols⟩ := doPatch_spec left right res s s' h
  refine ⟨hcols, (List.zip left.1 rs).map (fun p => (p.1, p.2, true)), by simp [hres], fun t ht => ?_, fun _ => ⟨?_, fun t ht => ?_⟩⟩
  · obtain ⟨p, hp, rfl⟩ := List.mem_map.mp ht
    exact ⟨(List.of_mem_zip hp).1, hmem _ (List.of_mem_zip hp).2⟩
  · rw [List.map_map]
    exact (List.map_fst_zip (le_of_eq hlen.symm)).symm ▸ .refl _
  · obtain ⟨p, _, rfl⟩ := List.mem_map.mp ht
    rfl

theorem sortAscStable_length {γ : Type} (lt : γ → γ → Bool) (l : List γ) : (sortAscStable lt l).length = l.length :=
  (sortAscStable_perm lt l).length_eq

end
