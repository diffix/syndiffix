import SdxProofs.PushDown
set_option linter.unusedSectionVars false
set_option linter.unusedVariables false
/-!
Where sub-nodes come from: if the sub-nodes of a tree's root satisfy a predicate that is closed under taking children,
then so do the sub-nodes of every node `add_row` (and the 1-dim push-down) ever creates below it.
-/

section
variable {α : Type} [Field α] [LinearOrder α] [IsStrictOrderedRing α] [FloorRing α] [Inhabited α]

/-- every sub-node of every node of the tree satisfies `P` -/
inductive SubsFrom (P : Node α → Prop) : Node α → Prop
  | leaf (d : NodeData α) (subs : List (Option (Node α))) (rows : List Nat) :
      (∀ s, some s ∈ subs → P s) → SubsFrom P (.leaf d subs rows)
  | branch (d : NodeData α) (subs : List (Option (Node α))) (ch : List (Nat × Node α)) :
      (∀ s, some s ∈ subs → P s) → (∀ p ∈ ch, SubsFrom P p.2) → SubsFrom P (.branch d subs ch)

theorem SubsFrom.subs {P : Node α → Prop} {t : Node α} (h : SubsFrom P t) : ∀ s, some s ∈ t.subnodes → P s := by
  cases h with
  | leaf _ _ _ h1 => exact h1
  | branch _ _ _ h1 _ => exact h1

theorem Node.Sub.trans {a b c : Node α} (h1 : Node.Sub a b) (h2 : Node.Sub b c) : Node.Sub a c := by
  induction h2 with
  | refl => exact h1
  | child d s ch p hp _ ih => exact Node.Sub.child _ d s ch p hp ih

theorem SubsFrom.sub {P : Node α → Prop} {n t : Node α} (hs : Node.Sub n t) (h : SubsFrom P t) : SubsFrom P n :=
  ChildClosed.sub (fun _ _ _ p h hp => by cases h with | branch _ _ _ _ hC => exact hC p hp) hs h

/-- the sub-nodes `_create_child_leaf` hands to a new child are children of the parent's sub-nodes -/
theorem createChild_subsFrom (P : Node α → Prop) (hP : ChildClosed P) (E : Env α) (c : FCtx α) (d : NodeData α)
    (subs : List (Option (Node α))) (idx row : Nat) (h : ∀ s, some s ∈ subs → P s) :
    SubsFrom P (createChild E c d subs idx row) := by
  unfold createChild mkLeaf
  apply SubsFrom.leaf
  intro s' hs'
  rw [List.mem_map] at hs'
  obtain ⟨⟨k, sk⟩, hz, hco⟩ := hs'
  simp only at hco
  have hsk : sk ∈ subs := (List.of_mem_zip hz).2
  unfold childOfSub at hco
  split at hco
  · rename_i ds ss chs
    exact hP ds ss chs _ (h _ hsk) (lookupChild_mem hco)
  · cases hco

/-- `add_row` creates no sub-node that is not a descendant of the root's sub-nodes -/
theorem addRow_subsFrom (P : Node α → Prop) (hP : ChildClosed P) (E : Env α) (c : FCtx α) (rl : Int)
    (fuel depth : Nat) (t : Node α) (row : Nat) (t' : Node α) (hT : SubsFrom P t)
    (h : addRow E c rl fuel depth t row = some t') : SubsFrom P t' := by
  fun_induction addRow E c rl fuel depth t row generalizing t' with
  | case1 => cases h
  | case2 fuel depth d subs rows row _ ih =>
    exact foldlM_some_inv _ (fun _ b => SubsFrom P b) (fun r _ b b' hb h1 => ih b r b' hb h1) _ _ _
      (SubsFrom.branch _ _ _ hT.subs (by simp)) h
  | case3 => cases h; exact SubsFrom.leaf _ _ _ hT.subs
  | case4 fuel depth d subs ch row idx =>
    cases h
    cases hT with
    | branch _ _ _ hs hC =>
      refine SubsFrom.branch _ _ _ hs ?_
      simp only [List.forall_mem_append, List.forall_mem_singleton]
      exact ⟨hC, createChild_subsFrom P hP E c d subs _ row hs⟩
  | case5 fuel depth d subs ch row idx _ _ ih =>
    obtain ⟨ch', hm, rfl⟩ := Option.map_eq_some_iff.mp h
    cases hT with
    | branch _ _ _ hs hC =>
      exact SubsFrom.branch _ _ _ hs (mapM_update_all _ _ _ (fun b b' hb hb' => ih (idx, b) b' hb hb') ch ch' hm hC)

theorem buildRows_subsFrom (P : Node α → Prop) (hP : ChildClosed P) (E : Env α) (c : FCtx α) (rl : Int) (root t : Node α)
    (h0 : SubsFrom P root) (h : buildRows E c rl root = some t) : SubsFrom P t :=
  foldlM_some_inv _ (fun _ b => SubsFrom P b) (fun r _ b b' hb h1 => addRow_subsFrom P hP E c rl 4000 0 b (r + 1) b' hb h1)
    _ _ _ h0 h

/-- folding an outlier row creates no sub-nodes -/
theorem addOutlier_subsFrom (P : Node α → Prop) (c : FCtx α) (fuel : Nat) (t : Node α) (row : Nat) (t' : Node α)
    (hT : SubsFrom P t) (h : addOutlier c fuel t row = some t') : SubsFrom P t' := by
  fun_induction addOutlier c fuel t row generalizing t' with
  | case1 => cases h
  | case2 => cases h; exact SubsFrom.leaf _ _ _ hT.subs
  | case3 => cases h
  | case4 fuel d subs ch row _ _ ih =>
    obtain ⟨ch', hm, rfl⟩ := Option.map_eq_some_iff.mp h
    cases hT with
    | branch _ _ _ hs hC =>
      exact SubsFrom.branch _ _ _ hs (mapM_update_all _ _ _ (fun b b' hb hb' => ih (0, b) b' hb hb') ch ch' hm hC)

theorem pushDown_subsFrom (P : Node α → Prop) (E : Env α) (c : FCtx α) (fuel : Nat) (t t' : Node α)
    (hT : SubsFrom P t) (h : pushDown E c fuel t = some t') : SubsFrom P t' := by
  have fold : ∀ (l : List Nat) (t1 t2 : Node α), SubsFrom P t1 →
      l.foldlM (fun t r => addOutlier c 100000 t r) t1 = some t2 → SubsFrom P t2 :=
    foldlM_some_inv _ (fun _ b => SubsFrom P b) (fun r _ b b' hb hr => addOutlier_subsFrom P c _ b r b' hb hr)
  fun_induction pushDown E c fuel t generalizing t' with
  | case1 => cases h
  | case2 => cases h; exact hT
  | case3 fuel d s ch rs c0 hc0 _ _ ih =>
    obtain ⟨t1, hpd, hf⟩ := Option.bind_eq_some_iff.mp h
    cases hT with
    | branch _ _ _ _ hC => exact fold rs t1 t' (ih t1 (hC _ (lookupChild_mem hc0)) hpd) hf
  | case4 fuel d s ch ls c1 hc1 _ _ ih =>
    obtain ⟨t1, hpd, hf⟩ := Option.bind_eq_some_iff.mp h
    cases hT with
    | branch _ _ _ _ hC => exact fold ls t1 t' (ih t1 (hC _ (lookupChild_mem hc1)) hpd) hf
  | case5 => cases h; exact hT

/-- everything reachable from a tree whose sub-nodes (at every node) satisfy a child-closed `P` that also implies
`SubsFrom P` … satisfies `P` — given that the tree itself does -/
theorem reach_of_subsFrom (P : Node α → Prop) (hP : ChildClosed P) (hPS : ∀ m, P m → SubsFrom P m) (t : Node α) (ht : P t) :
    ∀ m, Reach t m → P m := by
  intro m hr
  induction hr with
  | refl => exact ht
  | child d s ch p _ hp ih => exact hP d s ch p ih hp
  | sub n m _ hm ih => exact (hPS n ih).subs m hm

end
