import SdxModel.Forest
import Mathlib.Data.List.Perm.Basic
import Mathlib.Data.List.Basic
import Mathlib.Tactic.Linarith
/-! Structural tools for the nested tree type: the rows a tree holds, what `Branch.add_row` does to the children dict,
and the invariant rule for a fold in `Option`. Proofs about `addRow`, `addOutlier` and `pushDown` follow the recursion of
these functions through the principles Lean derives for them (`fun_induction addRow …`): one case per return path. -/

variable {α : Type}

theorem Node.sizeOf_child_lt (d : NodeData α) (s : List (Option (Node α))) (ch : List (Nat × Node α)) (p : Nat × Node α)
    (hp : p ∈ ch) : sizeOf p.2 < sizeOf (Node.branch d s ch) := by
  have h1 : sizeOf p < sizeOf ch := List.sizeOf_lt_of_mem hp
  have h2 : sizeOf p.2 < sizeOf p := by
    cases p with
    | mk a b => simp only [Prod.mk.sizeOf_spec]; omega
  simp only [Node.branch.sizeOf_spec]
  omega

/-- all rows held by the leaves of a tree, left to right -/
def Node.allRows : Node α → List Nat
  | .leaf _ _ rows => rows
  | .branch _ _ ch => (ch.attach.map (fun ⟨p, _⟩ => Node.allRows p.2)).flatten
termination_by n => sizeOf n
decreasing_by
  rename_i hp
  have h1 : sizeOf p < sizeOf ch := List.sizeOf_lt_of_mem hp
  have h2 : sizeOf p.2 < sizeOf p := by
    cases p with
    | mk a b => simp only [Prod.mk.sizeOf_spec]; omega
  simp only [Node.branch.sizeOf_spec]
  omega

theorem Node.allRows_leaf (d : NodeData α) (s : List (Option (Node α))) (rows : List Nat) :
    (Node.leaf d s rows).allRows = rows := by
  simp only [Node.allRows]

theorem Node.allRows_branch (d : NodeData α) (s : List (Option (Node α))) (ch : List (Nat × Node α)) :
    (Node.branch d s ch).allRows = (ch.map (fun p => p.2.allRows)).flatten := by
  simp only [Node.allRows]
  congr 1
  exact List.attach_map_val (l := ch) (f := fun p => p.2.allRows)

/-- `Branch.add_row` on the children dict: exactly the child stored under `idx` is replaced -/
theorem mapM_update_spec {β : Type} (f : β → Option β) (idx : Nat) {ch ch' : List (Nat × β)} {q0 : Nat × β}
    (hnd : (ch.map (·.1)).Nodup) (hf : ch.find? (fun p => p.1 == idx) = some q0)
    (h : ch.mapM (fun p => if p.1 == idx then (f p.2).map (fun n => (p.1, n)) else some p) = some ch') :
    ∃ pre q post n', ch = pre ++ q :: post ∧ q.1 = idx ∧ f q.2 = some n' ∧ ch' = pre ++ (q.1, n') :: post := by
  have hid : ∀ l : List (Nat × β), (∀ p ∈ l, p.1 ≠ idx) →
      l.mapM (fun p => if p.1 == idx then (f p.2).map (fun n => (p.1, n)) else some p) = some l := by
    intro l hl
    induction l with
    | nil => rfl
    | cons a l ih =>
      simp only [List.forall_mem_cons] at hl
      rw [List.mapM_cons, if_neg (by simpa using hl.1), ih hl.2]; rfl
  obtain ⟨hq, pre, post, rfl, hpre⟩ := List.find?_eq_some_iff_append.mp hf
  have hqi : q0.1 = idx := by simpa using hq
  have hpost : ∀ p ∈ post, p.1 ≠ idx := by
    intro p hp e
    simp only [List.map_append, List.map_cons, List.nodup_append, List.nodup_cons, List.mem_map] at hnd
    exact hnd.2.1.1 ⟨p, hp, e.trans hqi.symm⟩
  rw [List.mapM_append, hid pre (fun p hp => by simpa using hpre p hp), List.mapM_cons, if_pos hq, hid post hpost] at h
  cases hn : f q0.2 with
  | none => simp [hn] at h
  | some n' => exact ⟨pre, q0, post, n', rfl, hqi, hn, by simpa [hn] using h.symm⟩

/-- A fold in the `Option` monad keeps an invariant of its steps; `R rest b` is the invariant of a state `b` that still
has `rest` to consume (so it can speak about what is left as well as, through a perm or a sum, about what is done). -/
theorem foldlM_some_inv {β γ : Type} (f : β → γ → Option β) (R : List γ → β → Prop)
    (step : ∀ x rest b b', R (x :: rest) b → f b x = some b' → R rest b') :
    ∀ (l : List γ) (b b' : β), R l b → l.foldlM f b = some b' → R [] b' := by
  intro l
  induction l with
  | nil =>
    intro b b' hR h
    simp only [List.foldlM_nil, Option.pure_def, Option.some.injEq] at h
    exact h ▸ hR
  | cons x l ih =>
    intro b b' hR h
    rw [List.foldlM_cons] at h
    simp only [Option.bind_eq_bind, Option.bind_eq_some_iff] at h
    obtain ⟨b1, h1, h2⟩ := h
    exact ih b1 b' (step x l b b1 hR h1) h2

/-- the same update of the children dict: what holds of every old child and is kept by `f` holds of every new child
(no assumption on the keys) -/
theorem mapM_update_all {β : Type} (f : β → Option β) (idx : Nat) (Q : β → Prop)
    (hf : ∀ b b', Q b → f b = some b' → Q b') :
    ∀ (ch ch' : List (Nat × β)),
      ch.mapM (fun p => if p.1 == idx then (f p.2).map (fun n => (p.1, n)) else some p) = some ch' →
      (∀ p ∈ ch, Q p.2) → ∀ p ∈ ch', Q p.2 := by
  intro ch
  induction ch with
  | nil => intro ch' h _; simp at h; subst h; simp
  | cons a rest ih =>
    intro ch' h hall
    rw [List.mapM_cons] at h
    simp only [Option.bind_eq_bind, Option.pure_def, Option.bind_eq_some_iff, Option.some.injEq] at h
    obtain ⟨b, hb, bs, hbs, rfl⟩ := h
    simp only [List.forall_mem_cons] at hall ⊢
    refine ⟨?_, ih bs hbs hall.2⟩
    split_ifs at hb
    · obtain ⟨n', hn', rfl⟩ := Option.map_eq_some_iff.mp hb
      exact hf _ _ hall.1 hn'
    · cases hb; exact hall.1

/-- `mapIdx` after erasing position `m`: positions from `m` on see the index function shifted by one -/
theorem mapIdx_eraseIdx {β γ : Type} {f g : Nat → β → γ} (l : List β) (m : Nat) (h1 : ∀ i < m, g i = f i)
    (h2 : ∀ i, m ≤ i → i + 1 < l.length → g i = f (i + 1)) :
    (l.eraseIdx m).mapIdx g = (l.mapIdx f).eraseIdx m := by
  rw [List.mapIdx_eq_iff]
  intro i
  rw [List.getElem?_eraseIdx, List.getElem?_eraseIdx]
  split_ifs with h
  · rw [List.getElem?_mapIdx, h1 i h]
  · rw [List.getElem?_mapIdx]
    by_cases hi : i + 1 < l.length
    · rw [h2 i (not_lt.mp h) hi]
    · rw [List.getElem?_eq_none (not_lt.mp hi)]; rfl

