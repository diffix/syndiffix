import SdxProofs.TreeInduction
import SdxProofs.TreeLemmas
import SdxProofs.Field
import Mathlib.Data.List.Perm.Subperm
set_option linter.unusedSectionVars false
set_option linter.unusedVariables false
/-!
# The global invariant of a tree built by `add_row`

`TInv E c root t` says, for every node of `t` at once: lengths agree; child ranges are the halves selected by the
child's key and keys are unique; every row sits under the child its values route to; every row that lies in the
root range lies in the range of every node above it (lower end closed, upper end open unless it still is the
root's upper end); the tight range of a node is the hull of the values of the rows it holds; the stub flag is the
one computed from the sub-nodes; the entity counter is the counter of the rows held; a branch is no stub, no
single point, and passed the low-count filter on rows it (still) holds when it was split.

`addRow_inv` shows that `add_row` preserves it, keeps the node's identity and adds exactly the new row.
-/

section
variable {α : Type} [Field α] [LinearOrder α] [IsStrictOrderedRing α] [FloorRing α] [Inhabited α]

/-- `v` lies in `iv` the way the router sees it: lower end closed, upper end open unless still the root's upper end -/
def Ival.holds (root iv : Ival α) (v : α) : Prop := iv.lo ≤ v ∧ v ≤ iv.hi ∧ (v = iv.hi → iv.hi = root.hi)

/-- containment is only claimed for values inside the (closed) root range -/
def InRel (root iv : Ival α) (v : α) : Prop := (root.lo ≤ v ∧ v ≤ root.hi) → Ival.holds root iv v

theorem half_holds (root iv : Ival α) (v : α) (h : Ival.holds root iv v) :
    Ival.holds root (iv.half (iv.halfIndex v)) v := by
  obtain ⟨h1, h2, h3⟩ := h
  rcases iv.halfIndex_cases v with ⟨e, hs | hm⟩ | ⟨e, _, hm⟩ <;> rw [e]
  · -- a single point: the lower half is the point
    rw [Ival.half_zero, Ival.holds, Ival.middle_of_eq _ hs]
    exact ⟨h1, hs ▸ h2, fun hv => hs ▸ h3 (hs ▸ hv)⟩
  · exact ⟨h1, hm.le, fun hv => absurd hv hm.ne⟩
  · exact ⟨hm, h2, h3⟩

/-- `iv` is the hull of the values `vs` -/
def HullOf (iv : Ival α) (vs : List α) : Prop := (∀ v ∈ vs, iv.lo ≤ v ∧ v ≤ iv.hi) ∧ iv.lo ∈ vs ∧ iv.hi ∈ vs

theorem HullOf.lo_le_hi {iv : Ival α} {vs : List α} (h : HullOf iv vs) : iv.lo ≤ iv.hi := (h.1 _ h.2.2).1

theorem HullOf.congr {iv : Ival α} {vs vs' : List α} (h : HullOf iv vs) (he : ∀ x, x ∈ vs' ↔ x ∈ vs) : HullOf iv vs' :=
  ⟨fun v hv => h.1 v ((he v).mp hv), (he _).mpr h.2.1, (he _).mpr h.2.2⟩

theorem HullOf.single (v : α) : HullOf ⟨v, v⟩ [v] := by simp [HullOf]

theorem HullOf.expand {iv : Ival α} {vs vs' : List α} (v : α) (h : HullOf iv vs) (he : ∀ x, x ∈ vs' ↔ x ∈ vs ∨ x = v) :
    HullOf (iv.expand v) vs' := by
  have hle := h.lo_le_hi
  unfold Ival.expand
  split_ifs with h1 h2
  · refine ⟨fun x hx => ?_, (he _).mpr (Or.inl h.2.1), (he _).mpr (Or.inr rfl)⟩
    rcases (he x).mp hx with hx | rfl
    · exact ⟨(h.1 x hx).1, le_trans (h.1 x hx).2 (le_of_lt h1)⟩
    · exact ⟨le_trans hle (le_of_lt h1), le_refl _⟩
  · refine ⟨fun x hx => ?_, (he _).mpr (Or.inr rfl), (he _).mpr (Or.inl h.2.2)⟩
    rcases (he x).mp hx with hx | rfl
    · exact ⟨le_trans (le_of_lt h2) (h.1 x hx).1, (h.1 x hx).2⟩
    · exact ⟨le_refl _, le_trans (le_of_lt h2) hle⟩
  · refine ⟨fun x hx => ?_, (he _).mpr (Or.inl h.2.1), (he _).mpr (Or.inl h.2.2)⟩
    rcases (he x).mp hx with hx | rfl
    · exact h.1 x hx
    · exact ⟨not_lt.mp h2, not_lt.mp h1⟩

theorem expand_not_sing {iv : Ival α} (v : α) (hle : iv.lo ≤ iv.hi) (h : iv.isSing = false) : (iv.expand v).isSing = false := by
  have hne : iv.lo ≠ iv.hi := by simpa [Ival.isSing] using h
  have hlt : iv.lo < iv.hi := lt_of_le_of_ne hle hne
  unfold Ival.expand
  split_ifs with h1 h2
  · simpa [Ival.isSing] using ne_of_lt (lt_trans hlt h1)
  · simpa [Ival.isSing] using ne_of_lt (lt_trans h2 hlt)
  · exact h


/-- what the row's values must satisfy to be handed to a node with data `d` -/
def RowInside (c : FCtx α) (root : List (Ival α)) (d : NodeData α) (row : Nat) : Prop :=
  ∀ j < d.comb.length, InRel (root.getD j default) (d.snapped.getD j default) (c.value row (d.comb.getD j 0))

/-- the ranges of the child stored under key `idx` -/
noncomputable def childRanges (d : NodeData α) (idx : Nat) : List (Ival α) :=
  (List.zip (List.range d.comb.length) d.snapped).map (fun q => q.2.half ((idx / 2 ^ (d.comb.length - 1 - q.1)) % 2))

/-- the sub-nodes handed to a node are nodes of the lower-dimensional trees with one dimension removed: sub-node `k`
lacks dimension `dims-1-k` (the order of `generate_combinations(dims-1, dims)`) and carries the node's ranges in the
remaining dimensions -/
def SubsC (comb : List Nat) (snapped : List (Ival α)) (subs : List (Option (Node α))) : Prop :=
  ∀ (k : Nat) (s : Node α), subs[k]? = some (some s) → k < comb.length ∧ s.data.comb = comb.eraseIdx (comb.length - 1 - k) ∧
    s.data.snapped = snapped.eraseIdx (comb.length - 1 - k)

/-- the purely structural part of the invariant, for a tree and (recursively) for all its sub-nodes -/
inductive Shape : Node α → Prop
  | leaf (d : NodeData α) (subs : List (Option (Node α))) (rows : List Nat) :
      (d.snapped.length = d.comb.length ∧ d.actual.length = d.comb.length ∧ (2 ≤ d.comb.length → subs.length = d.comb.length)) →
      SubsC d.comb d.snapped subs →
      (∀ (k : Nat) (s : Node α), subs[k]? = some (some s) → Shape s) → Shape (.leaf d subs rows)
  | branch (d : NodeData α) (subs : List (Option (Node α))) (ch : List (Nat × Node α)) :
      (d.snapped.length = d.comb.length ∧ d.actual.length = d.comb.length ∧ (2 ≤ d.comb.length → subs.length = d.comb.length)) →
      SubsC d.comb d.snapped subs →
      (∀ (k : Nat) (s : Node α), subs[k]? = some (some s) → Shape s) → (ch.map (·.1)).Nodup →
      (∀ p ∈ ch, p.2.data.comb = d.comb ∧ p.2.data.path = d.path ++ [p.1] ∧ p.2.data.snapped = childRanges d p.1) →
      (∀ p ∈ ch, Shape p.2) → Shape (.branch d subs ch)

/-- sub-nodes are the right projections, and are themselves well-shaped -/
def SubsOK (comb : List Nat) (snapped : List (Ival α)) (subs : List (Option (Node α))) : Prop :=
  SubsC comb snapped subs ∧ (∀ (k : Nat) (s : Node α), subs[k]? = some (some s) → Shape s) ∧
    (2 ≤ comb.length → subs.length = comb.length)

/-- the part of the invariant every node carries: `all` are the rows held, `hullRows` the rows the tight range spans -/
structure NodeOK (E : Env α) (c : FCtx α) (root : List (Ival α)) (d : NodeData α) (subs : List (Option (Node α)))
    (all hullRows : List Nat) : Prop where
  lenS : d.snapped.length = d.comb.length
  lenA : d.actual.length = d.comb.length
  nonempty : hullRows ≠ []
  inside : ∀ r ∈ all, RowInside c root d r
  hull : ∀ j < d.comb.length, HullOf (d.actual.getD j default) (hullRows.map fun r => c.value r (d.comb.getD j 0))
  stub : d.isStub = stubFlag E c subs
  counter : ∃ hist : List Nat, hist.Perm all ∧ d.counter = c.kind.newEntity.addMany (hist.map c.pidRow)
  subsOK : SubsOK d.comb d.snapped subs

/-- what a branch carries on top -/
structure BranchOK (E : Env α) (c : FCtx α) (d : NodeData α) (subs : List (Option (Node α)))
    (ch : List (Nat × Node α)) (hullRows : List Nat) : Prop where
  keys : (ch.map (·.1)).Nodup
  child : ∀ p ∈ ch, p.2.data.comb = d.comb ∧ p.2.data.path = d.path ++ [p.1] ∧ p.2.data.baseSeed = d.baseSeed ∧
    p.2.data.snapped = childRanges d p.1
  route : ∀ p ∈ ch, ∀ r ∈ p.2.allRows, childIndex d.snapped (c.vals d.comb r) = p.1
  notStub : d.isStub = false
  notSing : d.actual.all Ival.isSing = false
  licence : ∃ h0 : List Nat, h0.Subperm hullRows ∧
    (c.kind.newEntity.addMany (h0.map c.pidRow)).isLowCount E c.ap.salt c.ap.supp = false

/-- the invariant; `extra` are rows the node's tight range already spans but which are not (yet) held below it —
empty except while a freshly split leaf re-inserts its rows -/
inductive TInvX (E : Env α) (c : FCtx α) (root : List (Ival α)) : List Nat → Node α → Prop
  | leaf (extra : List Nat) (d : NodeData α) (subs : List (Option (Node α))) (rows : List Nat) :
      NodeOK E c root d subs rows (extra ++ rows) → TInvX E c root extra (.leaf d subs rows)
  | branch (extra : List Nat) (d : NodeData α) (subs : List (Option (Node α))) (ch : List (Nat × Node α)) :
      NodeOK E c root d subs (Node.allRows (.branch d subs ch)) (extra ++ Node.allRows (.branch d subs ch)) →
      BranchOK E c d subs ch (extra ++ Node.allRows (.branch d subs ch)) →
      (∀ p ∈ ch, TInvX E c root [] p.2) → TInvX E c root extra (.branch d subs ch)

/-- the invariant of a finished tree -/
def TInv (E : Env α) (c : FCtx α) (root : List (Ival α)) (t : Node α) : Prop := TInvX E c root [] t

/-- `add_row` keeps a node's identity -/
def SameId (t t' : Node α) : Prop :=
  t'.data.comb = t.data.comb ∧ t'.data.path = t.data.path ∧ t'.data.baseSeed = t.data.baseSeed ∧
  t'.data.snapped = t.data.snapped ∧ t'.subnodes = t.subnodes

theorem vals_getD (c : FCtx α) (comb : List Nat) (row j : Nat) (hj : j < comb.length) :
    (c.vals comb row).getD j default = c.value row (comb.getD j 0) := by
  simp [FCtx.vals, List.getD_eq_getElem?_getD, hj]

theorem updData_actual_getD (c : FCtx α) (d : NodeData α) (row j : Nat) (hA : d.actual.length = d.comb.length)
    (hj : j < d.comb.length) :
    (updData c d row).actual.getD j default = (d.actual.getD j default).expand (c.value row (d.comb.getD j 0)) := by
  have hv : j < (c.vals d.comb row).length := by simp [FCtx.vals, hj]
  have ha : j < d.actual.length := by rw [hA]; exact hj
  rw [← vals_getD c d.comb row j hj]
  simp [updData, List.getD_eq_getElem?_getD, List.getElem?_zipWith, ha, hv]

/-- updating a node's data for a new row -/
theorem NodeOK.update {E : Env α} {c : FCtx α} {root : List (Ival α)} {d : NodeData α} {subs : List (Option (Node α))}
    {all extra all' extra' : List Nat} (row : Nat)
    (h : NodeOK E c root d subs all (extra ++ all)) (hr : RowInside c root d row)
    (hp : all'.Perm (all ++ [row]))
    (hex : ∀ x, x ∈ extra' ++ (all ++ [row]) ↔ (x ∈ extra ++ all ∨ x = row)) :
    NodeOK E c root (updData c d row) subs all' (extra' ++ all') := by
  have hex' : ∀ x, x ∈ extra' ++ all' ↔ (x ∈ extra ++ all ∨ x = row) :=
    fun x => ((hp.append_left extra').mem_iff).trans (hex x)
  refine ⟨h.lenS, ?_, ?_, ?_, ?_, h.stub, ?_, h.subsOK⟩
  · simp [updData, FCtx.vals, h.lenA]
  · exact List.ne_nil_of_mem ((hex' row).mpr (Or.inr rfl))
  · intro r hr'
    rcases List.mem_append.mp (hp.subset hr') with hm | hm
    · exact h.inside r hm
    · rw [List.mem_singleton.mp hm]; exact hr
  · intro j hj
    rw [updData_actual_getD c d row j h.lenA hj]
    refine HullOf.expand _ (h.hull j hj) fun x => ?_
    simp only [List.mem_map]
    constructor
    · rintro ⟨r, hr', rfl⟩
      exact ((hex' r).mp hr').imp (fun hm => ⟨r, hm, rfl⟩) (fun e => by rw [e]; rfl)
    · rintro (⟨r, hm, rfl⟩ | rfl)
      · exact ⟨r, (hex' r).mpr (Or.inl hm), rfl⟩
      · exact ⟨row, (hex' row).mpr (Or.inr rfl), rfl⟩
  · obtain ⟨hist, hperm, hc⟩ := h.counter
    refine ⟨hist ++ [row], (hperm.append_right [row]).trans hp.symm, ?_⟩
    simp [updData, hc, ECounter.addMany, List.foldl_append]



theorem childIndex_bit_getD (c : FCtx α) (d : NodeData α) (row j : Nat) (hS : d.snapped.length = d.comb.length)
    (hj : j < d.comb.length) :
    (childIndex d.snapped (c.vals d.comb row) / 2 ^ (d.comb.length - 1 - j)) % 2
      = (d.snapped.getD j default).halfIndex (c.value row (d.comb.getD j 0)) := by
  have hl : d.snapped.length = (c.vals d.comb row).length := by simp [FCtx.vals, hS]
  have hjs : j < d.snapped.length := by rw [hS]; exact hj
  have := childIndex_bit d.snapped (c.vals d.comb row) hl j hjs
  rw [← hS, this, ← vals_getD c d.comb row j hj]
  have hjv : j < (c.vals d.comb row).length := by rw [← hl]; exact hjs
  simp [List.getD_eq_getElem?_getD, hjs, hjv]

/-- the ranges of a child, position by position -/
theorem childRanges_eq_mapIdx (d : NodeData α) (idx : Nat) (hS : d.snapped.length = d.comb.length) :
    childRanges d idx = d.snapped.mapIdx (fun j iv => iv.half ((idx / 2 ^ (d.comb.length - 1 - j)) % 2)) := by
  unfold childRanges
  rw [List.mapIdx_eq_zipIdx_map, List.zipIdx_eq_zip_range', hS, ← List.range_eq_range', ← List.zip_swap, List.map_map]
  rfl

theorem childRanges_getD (d : NodeData α) (idx j : Nat) (hS : d.snapped.length = d.comb.length) (hj : j < d.comb.length) :
    (childRanges d idx).getD j default = (d.snapped.getD j default).half ((idx / 2 ^ (d.comb.length - 1 - j)) % 2) := by
  have hjs : j < d.snapped.length := by rw [hS]; exact hj
  simp [childRanges_eq_mapIdx d idx hS, List.getD_eq_getElem?_getD, hjs]

/-- a row handed to a branch may be handed on to the child it routes to -/
theorem rowInside_child (c : FCtx α) (root : List (Ival α)) (d d' : NodeData α) (row : Nat)
    (hS : d.snapped.length = d.comb.length) (hr : RowInside c root d row) (hc : d'.comb = d.comb)
    (hs : d'.snapped = childRanges d (childIndex d.snapped (c.vals d.comb row))) : RowInside c root d' row := by
  intro j hj hroot
  rw [hc] at hj hroot
  rw [hs, hc, childRanges_getD d _ j hS hj, childIndex_bit_getD c d row j hS hj]
  exact half_holds _ _ _ (hr j hj hroot)


theorem bit_removeDim (k idx p : Nat) :
    (removeDim k idx / 2 ^ p) % 2 = (idx / 2 ^ (if p < k then p else p + 1)) % 2 := by
  have h := removeDim_testBit k idx p
  rw [Nat.testBit_eq_decide_div_mod_eq, Nat.testBit_eq_decide_div_mod_eq] at h
  have h1 : (removeDim k idx / 2 ^ p) % 2 < 2 := Nat.mod_lt _ (by norm_num)
  have h2 : (idx / 2 ^ (if p < k then p else p + 1)) % 2 < 2 := Nat.mod_lt _ (by norm_num)
  have h3 : ((removeDim k idx / 2 ^ p) % 2 = 1) ↔ ((idx / 2 ^ (if p < k then p else p + 1)) % 2 = 1) := by
    simpa using h
  omega

/-- the child of sub-node `k` under the key with bit `k` removed has the child's ranges with that dimension removed -/
theorem childRanges_erase (d ds : NodeData α) (idx k : Nat) (hS : d.snapped.length = d.comb.length)
    (hk : k < d.comb.length) (hc : ds.comb = d.comb.eraseIdx (d.comb.length - 1 - k))
    (hs : ds.snapped = d.snapped.eraseIdx (d.comb.length - 1 - k)) :
    childRanges ds (removeDim k idx) = (childRanges d idx).eraseIdx (d.comb.length - 1 - k) := by
  have hn' : ds.comb.length = d.comb.length - 1 := by
    rw [hc, List.length_eraseIdx]; simp; omega
  have hSs : ds.snapped.length = ds.comb.length := by
    rw [hs, hc, List.length_eraseIdx, List.length_eraseIdx, hS]
  rw [childRanges_eq_mapIdx ds _ hSs, childRanges_eq_mapIdx d idx hS, hs, hn']
  -- positions before the erased one sit above bit `k` of the key, the others below it
  refine mapIdx_eraseIdx _ _ (fun i hi => ?_) (fun i hi hl => ?_)
  · rw [bit_removeDim, if_neg (by omega), show d.comb.length - 1 - 1 - i + 1 = d.comb.length - 1 - i by omega]
  · rw [bit_removeDim, if_pos (by omega), show d.comb.length - 1 - 1 - i = d.comb.length - 1 - (i + 1) by omega]

theorem lookupChild_mem {ch : List (Nat × Node α)} {k : Nat} {n : Node α} (h : lookupChild ch k = some n) : (k, n) ∈ ch := by
  simp only [lookupChild, Option.map_eq_some_iff] at h
  obtain ⟨p, hp, rfl⟩ := h
  have h1 := List.mem_of_find?_eq_some hp
  have h2 := List.find?_some hp
  have : p.1 = k := by simpa using h2
  rw [← this]; exact h1

/-- the sub-nodes `_create_child_leaf` hands to a new child are the right projections of the child -/
theorem createChild_subs (d : NodeData α) (subs : List (Option (Node α))) (idx : Nat) (hS : d.snapped.length = d.comb.length)
    (h : SubsOK d.comb d.snapped subs) :
    SubsOK d.comb (childRanges d idx)
      ((List.zip (List.range subs.length) subs).map (fun (k, s) => childOfSub s (removeDim k idx))) := by
  have key : ∀ (k : Nat) (s' : Node α),
      ((List.zip (List.range subs.length) subs).map (fun (k, s) => childOfSub s (removeDim k idx)))[k]? = some (some s') →
      ∃ ds ss chs, subs[k]? = some (some (.branch ds ss chs)) ∧ (removeDim k idx, s') ∈ chs := by
    intro k s' hk
    rw [List.getElem?_map] at hk
    cases hz : (List.zip (List.range subs.length) subs)[k]? with
    | none => rw [hz] at hk; simp at hk
    | some pr =>
      rw [hz] at hk
      simp only [Option.map_some, Option.some.injEq] at hk
      rw [List.getElem?_zip_eq_some] at hz
      obtain ⟨hz1, hz2⟩ := hz
      have hk1 : pr.1 = k := by
        have := (List.getElem?_eq_some_iff.mp hz1).2
        simpa using this.symm
      obtain ⟨k', sk⟩ := pr
      simp only at hk1 hz2 hk
      subst hk1
      unfold childOfSub at hk
      split at hk
      · rename_i ds ss chs
        exact ⟨ds, ss, chs, hz2, lookupChild_mem hk⟩
      · cases hk
  refine ⟨?_, ?_, ?_⟩
  · intro k s' hk
    obtain ⟨ds, ss, chs, hsub, hmem⟩ := key k s' hk
    obtain ⟨hkl, hc, hs⟩ := h.1 k _ hsub
    have hsh := h.2.1 k _ hsub
    cases hsh with
    | branch _ _ _ hSs _ _ _ hchild _ =>
      obtain ⟨c1, _, c3⟩ := hchild _ hmem
      refine ⟨hkl, c1.trans hc, ?_⟩
      rw [c3]
      exact childRanges_erase d ds idx k hS hkl hc hs
  · intro k s' hk
    obtain ⟨ds, ss, chs, hsub, hmem⟩ := key k s' hk
    have hsh := h.2.1 k _ hsub
    cases hsh with
    | branch _ _ _ _ _ _ _ _ hC => exact hC _ hmem
  · intro h2
    simp only [List.length_map, List.length_zip, List.length_range, Nat.min_self]
    exact h.2.2 h2

theorem subsOK_nil {comb : List Nat} {snapped : List (Ival α)} (hc : comb.length ≤ 1) :
    SubsOK comb snapped ([] : List (Option (Node α))) :=
  ⟨fun k s h => by simp at h, fun k s h => by simp at h, fun h => by omega⟩

/-- a fresh leaf for a row that lies inside the leaf's ranges satisfies the invariant -/
theorem mkLeaf_ok (E : Env α) (c : FCtx α) (root : List (Ival α)) (comb path : List Nat) (seed : UInt64)
    (subs : List (Option (Node α))) (snapped : List (Ival α)) (row : Nat) (hS : snapped.length = comb.length)
    (hr : ∀ j < comb.length, InRel (root.getD j default) (snapped.getD j default) (c.value row (comb.getD j 0)))
    (hsub : SubsOK comb snapped subs) :
    TInvX E c root [] (mkLeaf E c comb path seed subs snapped row) := by
  unfold mkLeaf
  apply TInvX.leaf
  refine ⟨hS, ?_, by simp, ?_, ?_, rfl, ⟨[row], List.Perm.refl _, rfl⟩, hsub⟩
  · simp [FCtx.vals]
  · intro r hr'
    rw [List.mem_singleton.mp hr']
    exact hr
  · intro j hj
    have hj' : j < comb.length := hj
    have : ((c.vals comb row).map (fun v => (⟨v, v⟩ : Ival α))).getD j default
        = ⟨c.value row (comb.getD j 0), c.value row (comb.getD j 0)⟩ := by
      rw [← vals_getD c comb row j hj']
      have hjv : j < (c.vals comb row).length := by simp [FCtx.vals, hj']
      simp [List.getD_eq_getElem?_getD, hjv]
    simp only [List.nil_append, List.map_cons, List.map_nil]
    rw [this]
    exact HullOf.single _

/-- the leaf created for a row that finds no child satisfies the invariant -/
theorem createChild_ok (E : Env α) (c : FCtx α) (root : List (Ival α)) (d : NodeData α) (subs : List (Option (Node α)))
    (row : Nat) (hS : d.snapped.length = d.comb.length) (hr : RowInside c root d row) (hsub : SubsOK d.comb d.snapped subs) :
    TInvX E c root [] (createChild E c d subs (childIndex d.snapped (c.vals d.comb row)) row) := by
  unfold createChild
  apply mkLeaf_ok
  · simp [hS]
  · exact rowInside_child c root d ⟨d.comb, d.path ++ [childIndex d.snapped (c.vals d.comb row)], d.baseSeed,
      childRanges d (childIndex d.snapped (c.vals d.comb row)), [], false, default⟩ row hS hr rfl rfl
  · exact createChild_subs d subs _ hS hsub

theorem SameId.refl (t : Node α) : SameId t t := ⟨rfl, rfl, rfl, rfl, rfl⟩
theorem SameId.trans {a b c : Node α} (h1 : SameId a b) (h2 : SameId b c) : SameId a c :=
  ⟨h2.1.trans h1.1, h2.2.1.trans h1.2.1, h2.2.2.1.trans h1.2.2.1, h2.2.2.2.1.trans h1.2.2.2.1, h2.2.2.2.2.trans h1.2.2.2.2⟩

/-- what may be handed to a node may be handed to the node it has become -/
theorem RowInside.sameId {c : FCtx α} {root : List (Ival α)} {t t' : Node α} {r : Nat} (hid : SameId t t')
    (h : RowInside c root t.data r) : RowInside c root t'.data r := by
  intro j hj
  rw [hid.1] at hj
  rw [hid.1, hid.2.2.2.1]
  exact h j hj

/-- a child that keeps its identity keeps its place under its parent -/
theorem SameId.child {d : NodeData α} {q : Nat × Node α} {n' : Node α} (hid : SameId q.2 n')
    (h : q.2.data.comb = d.comb ∧ q.2.data.path = d.path ++ [q.1] ∧ q.2.data.baseSeed = d.baseSeed ∧
      q.2.data.snapped = childRanges d q.1) :
    n'.data.comb = d.comb ∧ n'.data.path = d.path ++ [q.1] ∧ n'.data.baseSeed = d.baseSeed ∧
      n'.data.snapped = childRanges d q.1 :=
  ⟨hid.1.trans h.1, hid.2.1.trans h.2.1, hid.2.2.1.trans h.2.2.1, hid.2.2.2.1.trans h.2.2.2⟩

theorem allRows_split (pre post : List (Nat × Node α)) (q : Nat × Node α) (d : NodeData α) (s : List (Option (Node α))) :
    (Node.branch d s (pre ++ q :: post)).allRows =
      (pre.map (fun p => p.2.allRows)).flatten ++ q.2.allRows ++ (post.map (fun p => p.2.allRows)).flatten := by
  simp [Node.allRows_branch]

theorem mem_allRows_of_child (d : NodeData α) (s : List (Option (Node α))) (ch : List (Nat × Node α)) (p : Nat × Node α)
    (hp : p ∈ ch) (r : Nat) (hr : r ∈ p.2.allRows) : r ∈ (Node.branch d s ch).allRows := by
  rw [Node.allRows_branch, List.mem_flatten]
  exact ⟨p.2.allRows, List.mem_map.mpr ⟨p, hp, rfl⟩, hr⟩

/-- one child gains a row: so does the branch -/
theorem allRows_replace (pre post : List (Nat × Node α)) (q : Nat × Node α) {n' : Node α} {row : Nat}
    (d d' : NodeData α) (s : List (Option (Node α))) (h : n'.allRows.Perm (q.2.allRows ++ [row])) :
    (Node.branch d' s (pre ++ (q.1, n') :: post)).allRows.Perm ((Node.branch d s (pre ++ q :: post)).allRows ++ [row]) := by
  rw [allRows_split, allRows_split]
  simp only [List.append_assoc]
  refine List.Perm.append_left _ ((h.append_right _).trans ?_)
  simp only [List.append_assoc]
  exact List.Perm.append_left _ List.perm_append_comm

theorem notSing_update (c : FCtx α) (d : NodeData α) (row : Nat) (hA : d.actual.length = d.comb.length)
    (hle : ∀ j < d.comb.length, (d.actual.getD j default).lo ≤ (d.actual.getD j default).hi)
    (h : d.actual.all Ival.isSing = false) : (updData c d row).actual.all Ival.isSing = false := by
  rw [List.all_eq_false] at h ⊢
  obtain ⟨iv, hmem, hns⟩ := h
  obtain ⟨j, hj, rfl⟩ := List.mem_iff_getElem.mp hmem
  have hjc : j < d.comb.length := by rw [← hA]; exact hj
  have hlen : (updData c d row).actual.length = d.comb.length := by simp [updData, FCtx.vals, hA]
  have hj' : j < (updData c d row).actual.length := by rw [hlen]; exact hjc
  refine ⟨(updData c d row).actual[j], List.getElem_mem hj', ?_⟩
  have e1 : (updData c d row).actual[j] = (updData c d row).actual.getD j default := by
    simp [List.getD_eq_getElem?_getD, hj']
  have e2 : d.actual[j] = d.actual.getD j default := by simp [List.getD_eq_getElem?_getD, hj]
  rw [e1, updData_actual_getD c d row j hA hjc]
  have := expand_not_sing (c.value row (d.comb.getD j 0)) (hle j hjc) (by rw [← e2]; simpa using hns)
  rw [this]; simp

/-- a branch whose data is updated for a row that its children `ch'` now hold in addition (`all` are the rows held before) -/
theorem TInvX.updBranch {E : Env α} {c : FCtx α} {root : List (Ival α)} {d : NodeData α} {subs : List (Option (Node α))}
    {ch ch' : List (Nat × Node α)} {all extra extra' : List Nat} (row : Nat)
    (hN : NodeOK E c root d subs all (extra ++ all)) (hB : BranchOK E c d subs ch (extra ++ all))
    (hr : RowInside c root d row) (hex : ∀ x, x ∈ extra' ++ (all ++ [row]) ↔ (x ∈ extra ++ all ∨ x = row))
    (hsub : (extra ++ all).Subperm (extra' ++ (all ++ [row])))
    (hp : (Node.branch (updData c d row) subs ch').allRows.Perm (all ++ [row]))
    (keys : (ch'.map (·.1)).Nodup)
    (child : ∀ p ∈ ch', p.2.data.comb = d.comb ∧ p.2.data.path = d.path ++ [p.1] ∧ p.2.data.baseSeed = d.baseSeed ∧
      p.2.data.snapped = childRanges d p.1)
    (route : ∀ p ∈ ch', ∀ r ∈ p.2.allRows, childIndex d.snapped (c.vals d.comb r) = p.1)
    (hC : ∀ p ∈ ch', TInvX E c root [] p.2) :
    TInvX E c root extra' (.branch (updData c d row) subs ch') := by
  obtain ⟨h0, hs0, hl0⟩ := hB.licence
  exact TInvX.branch _ _ _ _ (hN.update row hr hp hex)
    ⟨keys, child, route, hB.notStub,
      notSing_update c d row hN.lenA (fun j hj => (hN.hull j hj).lo_le_hi) hB.notSing,
      h0, (hs0.trans hsub).trans (hp.symm.append_left extra').subperm, hl0⟩ hC

/-- `Branch(leaf)` before the rows are re-inserted: it holds nothing, its tight range still spans all of them -/
theorem TInvX.emptyBranch {E : Env α} {c : FCtx α} {root : List (Ival α)} {d : NodeData α} {subs : List (Option (Node α))}
    {rows ex : List Nat} (hN : NodeOK E c root d subs rows (ex ++ rows)) (hstub : d.isStub = false)
    (hsing : d.actual.all Ival.isSing = false) (hover : d.counter.isLowCount E c.ap.salt c.ap.supp = false) :
    TInvX E c root (rows ++ ex) (.branch { d with counter := c.kind.newEntity, isStub := stubFlag E c subs } subs []) := by
  have hall : (Node.branch { d with counter := c.kind.newEntity, isStub := stubFlag E c subs } subs []).allRows = [] := by
    simp [Node.allRows_branch]
  obtain ⟨hist, hperm, hc⟩ := hN.counter
  refine TInvX.branch _ _ _ _ ?_ ?_ (fun p hp => absurd hp List.not_mem_nil)
  · rw [hall, List.append_nil]
    refine ⟨hN.lenS, hN.lenA, ?_, fun r hr => absurd hr List.not_mem_nil, ?_, rfl, ⟨[], List.Perm.refl _, rfl⟩, hN.subsOK⟩
    · exact fun he => hN.nonempty (by simp_all)
    · exact fun j hj => (hN.hull j hj).congr fun x => by simp only [List.mem_map, List.mem_append, or_comm]
  · rw [hall, List.append_nil]
    exact ⟨List.nodup_nil, fun p hp => absurd hp List.not_mem_nil, fun p hp => absurd hp List.not_mem_nil,
      hN.stub ▸ hstub, hsing, hist, hperm.subperm.trans (List.sublist_append_left _ _).subperm, hc ▸ hover⟩

/-- `add_row` preserves the invariant, adds exactly the new row and keeps the node's identity. -/
theorem addRow_invX (E : Env α) (c : FCtx α) (rl : Int) (root : List (Ival α)) :
    ∀ (fuel depth : Nat) (t : Node α) (row : Nat) (t' : Node α) (extra extra' : List Nat),
      TInvX E c root extra t → RowInside c root t.data row →
      (∀ x, x ∈ extra' ++ (t.allRows ++ [row]) ↔ (x ∈ extra ++ t.allRows ∨ x = row)) →
      (extra ++ t.allRows).Subperm (extra' ++ (t.allRows ++ [row])) →
      addRow E c rl fuel depth t row = some t' →
      TInvX E c root extra' t' ∧ t'.allRows.Perm (t.allRows ++ [row]) ∧ SameId t t' := by
  intro fuel depth t row t' extra extra' hT hr hex hsub h
  fun_induction addRow E c rl fuel depth t row generalizing t' extra extra' with
  | case1 => cases h
  | case2 fuel depth d subs rows row hsp IH =>
    -- the leaf splits: an empty branch, then every row re-inserted, each leaving the rows that the tight range
    -- spans but the branch does not hold yet
    cases hT with
    | leaf _ _ _ _ hN =>
    rw [Node.allRows_leaf] at hex hsub ⊢
    have hN' := hN.update row hr (List.Perm.refl _) hex
    simp only [shouldSplit, Node.overThreshold, Node.data, Bool.and_eq_true, Bool.not_eq_true'] at hsp
    have := foldlM_some_inv _
      (fun rest b => TInvX E c root (rest ++ extra') b ∧ (∀ r ∈ rest, RowInside c root b.data r) ∧
        (b.allRows ++ rest).Perm (rows ++ [row]) ∧ SameId (Node.leaf d subs rows) b)
      (fun r rest b b1 ⟨hTb, hrs, hpb, hidb⟩ h1 => by
        have hp : ((r :: rest ++ extra') ++ b.allRows).Perm ((rest ++ extra') ++ (b.allRows ++ [r])) := by
          rw [← List.append_assoc]; exact (List.perm_append_singleton r _).symm
        obtain ⟨hT1, hp1, hid1⟩ := IH b r b1 _ (rest ++ extra') hTb (hrs r List.mem_cons_self)
          (fun x => hp.mem_iff.symm.trans (or_iff_left_of_imp fun e => e ▸ by simp).symm) hp.subperm h1
        exact ⟨hT1, fun r' hr' => (hrs r' (List.mem_cons_of_mem _ hr')).sameId hid1,
          ((hp1.append_right rest).trans (by simp)).trans hpb, hidb.trans hid1⟩)
      _ _ t' ⟨TInvX.emptyBranch hN' hsp.1.1.2 hsp.1.2 hsp.2, hN'.inside, by simp [Node.allRows_branch],
        ⟨rfl, rfl, rfl, rfl, rfl⟩⟩ h
    exact ⟨by simpa using this.1, by simpa using this.2.2.1, this.2.2.2⟩
  | case3 fuel depth d subs rows row =>
    cases h
    cases hT with
    | leaf _ _ _ _ hN =>
    rw [Node.allRows_leaf] at hex
    exact ⟨TInvX.leaf _ _ _ _ (hN.update row hr (List.Perm.refl _) hex), by simp [Node.allRows_leaf],
      ⟨rfl, rfl, rfl, rfl, rfl⟩⟩
  | case4 fuel depth d subs ch row idx hf =>
    cases h
    cases hT with
    | branch _ _ _ _ hN hB hC =>
    have hall : (Node.branch (updData c d row) subs (ch ++ [(idx, createChild E c d subs idx row)])).allRows
        = (Node.branch d subs ch).allRows ++ [row] := by
      simp [Node.allRows_branch, createChild, mkLeaf, Node.allRows_leaf]
    refine ⟨TInvX.updBranch row hN hB hr hex hsub (by rw [hall]) ?_ ?_ ?_ ?_, by rw [hall], ⟨rfl, rfl, rfl, rfl, rfl⟩⟩
    · rw [List.map_append, List.nodup_append]
      refine ⟨hB.keys, List.nodup_singleton _, ?_⟩
      rintro _ ha _ hb rfl
      obtain ⟨p, hp, rfl⟩ := List.mem_map.mp ha
      simpa [List.mem_singleton.mp hb] using List.find?_eq_none.mp hf p hp
    · simp only [List.forall_mem_append, List.forall_mem_singleton]
      exact ⟨hB.child, rfl, rfl, rfl, rfl⟩
    · simp only [List.forall_mem_append, List.forall_mem_singleton]
      exact ⟨hB.route, fun r hr' => by
        simp only [createChild, mkLeaf, Node.allRows_leaf, List.mem_singleton] at hr'
        rw [hr']⟩
    · simp only [List.forall_mem_append, List.forall_mem_singleton]
      exact ⟨hC, createChild_ok E c root d subs row hN.lenS hr hN.subsOK⟩
  | case5 fuel depth d subs ch row idx q0 hf IH =>
    obtain ⟨ch', hm, rfl⟩ := Option.map_eq_some_iff.mp h
    cases hT with
    | branch _ _ _ _ hN hB hC =>
    obtain ⟨pre, q, post, n', rfl, hqi, hfq, rfl⟩ :=
      mapM_update_spec (fun n => addRow E c rl fuel (depth + 1) n row) _ hB.keys hf hm
    have hchild := hB.child; have hroute := hB.route
    simp only [List.forall_mem_append, List.forall_mem_cons] at hchild hroute hC ⊢
    obtain ⟨hTn, hpn, hidn⟩ := IH q n' [] [] hC.2.1
      (rowInside_child c root d q.2.data row hN.lenS hr hchild.2.1.1 (by rw [hchild.2.1.2.2.2, hqi]))
      (by intro x; simp) (by simp; exact (List.sublist_append_left _ _).subperm) hfq
    have hperm := allRows_replace pre post q d (updData c d row) subs hpn
    refine ⟨TInvX.updBranch row hN hB hr hex hsub hperm ?_ ?_ ?_ ?_, hperm, ⟨rfl, rfl, rfl, rfl, rfl⟩⟩
    · simpa using hB.keys
    · simp only [List.forall_mem_append, List.forall_mem_cons]
      exact ⟨hchild.1, hidn.child hchild.2.1, hchild.2.2⟩
    · simp only [List.forall_mem_append, List.forall_mem_cons]
      refine ⟨hroute.1, fun r hr' => ?_, hroute.2.2⟩
      rcases List.mem_append.mp (hpn.subset hr') with hm' | hm'
      · exact hroute.2.1 r hm'
      · rw [List.mem_singleton.mp hm']; exact hqi.symm
    · simp only [List.forall_mem_append, List.forall_mem_cons]
      exact ⟨hC.1, hTn, hC.2.2⟩


/-- `add_row` on a finished tree -/
theorem addRow_inv (E : Env α) (c : FCtx α) (rl : Int) (root : List (Ival α)) (fuel depth : Nat) (t : Node α) (row : Nat)
    (t' : Node α) (hT : TInv E c root t) (hr : RowInside c root t.data row) (h : addRow E c rl fuel depth t row = some t') :
    TInv E c root t' ∧ t'.allRows.Perm (t.allRows ++ [row]) ∧ SameId t t' :=
  addRow_invX E c rl root fuel depth t row t' [] [] hT hr (by intro x; simp)
    (by simp; exact (List.sublist_append_left _ _).subperm) h

/-- a value inside the root range is inside the root range -/
theorem rowInside_root (c : FCtx α) (d : NodeData α) (row : Nat) : RowInside c d.snapped d row := by
  intro j _ h
  exact ⟨h.1, h.2, fun _ => rfl⟩

/-- inserting all rows at the root (`Forest` inserts rows `1 .. n-1` into the leaf made for row `0`) -/
theorem buildRows_inv (E : Env α) (c : FCtx α) (rl : Int) (root t : Node α) (hT : TInv E c root.data.snapped root)
    (h : buildRows E c rl root = some t) :
    TInv E c root.data.snapped t ∧ t.allRows.Perm (root.allRows ++ (List.range (c.data.size - 1)).map (· + 1)) ∧
      SameId root t := by
  have := foldlM_some_inv _
    (fun rest b => TInv E c root.data.snapped b ∧
      (b.allRows ++ rest.map (· + 1)).Perm (root.allRows ++ (List.range (c.data.size - 1)).map (· + 1)) ∧ SameId root b)
    (fun r rest b b1 ⟨hTb, hpb, hidb⟩ h1 => by
      obtain ⟨hT1, hp1, hid1⟩ := addRow_inv E c rl _ 4000 0 b (r + 1) b1 hTb
        (hidb.2.2.2.1 ▸ rowInside_root c b.data (r + 1)) h1
      exact ⟨hT1, ((hp1.append_right _).trans (by simp)).trans hpb, hidb.trans hid1⟩)
    _ root t ⟨hT, List.Perm.refl _, SameId.refl root⟩ h
  simpa using this

/-- `n` is a node of the tree `t` -/
inductive Node.Sub : Node α → Node α → Prop
  | refl (t : Node α) : Node.Sub t t
  | child (n : Node α) (d : NodeData α) (s : List (Option (Node α))) (ch : List (Nat × Node α)) (p : Nat × Node α) :
      p ∈ ch → Node.Sub n p.2 → Node.Sub n (.branch d s ch)

/-- `P` passes from a branch to its children -/
def ChildClosed (P : Node α → Prop) : Prop :=
  ∀ (d : NodeData α) (s : List (Option (Node α))) (ch : List (Nat × Node α)) (p : Nat × Node α),
    P (.branch d s ch) → p ∈ ch → P p.2

/-- … hence from a tree to every node of it -/
theorem ChildClosed.sub {P : Node α → Prop} (hP : ChildClosed P) {n t : Node α} (hs : Node.Sub n t) (ht : P t) : P n := by
  induction hs with
  | refl => exact ht
  | child d s ch p hp _ ih => exact ih (hP d s ch p ht hp)

/-- every node of a tree that satisfies the invariant satisfies it -/
theorem TInv.sub {E : Env α} {c : FCtx α} {root : List (Ival α)} {n t : Node α} (hs : Node.Sub n t)
    (hT : TInv E c root t) : TInv E c root n :=
  ChildClosed.sub (fun _ _ _ p h hp => by cases h with | branch _ _ _ _ _ _ hC => exact hC p hp) hs hT

/-- what the invariant says about the node itself -/
theorem TInvX.nodeOK {E : Env α} {c : FCtx α} {root : List (Ival α)} {ex : List Nat} {t : Node α}
    (h : TInvX E c root ex t) : NodeOK E c root t.data t.subnodes t.allRows (ex ++ t.allRows) := by
  cases h with
  | leaf _ d subs rows hN => rw [Node.allRows_leaf]; exact hN
  | branch _ d subs ch hN _ _ => exact hN

/-- the rows below a node of the tree are rows of the tree -/
theorem Node.Sub.rows_subset {n t : Node α} (hs : Node.Sub n t) : ∀ r ∈ n.allRows, r ∈ t.allRows := by
  induction hs with
  | refl => exact fun r hr => hr
  | child d s ch p hp _ ih => exact fun r hr => mem_allRows_of_child d s ch p hp r (ih r hr)


/-- what both constructors of `Shape` carry -/
theorem Shape.facts {n : Node α} (h : Shape n) :
    (n.data.snapped.length = n.data.comb.length ∧ n.data.actual.length = n.data.comb.length ∧
      (2 ≤ n.data.comb.length → n.subnodes.length = n.data.comb.length)) ∧
    SubsC n.data.comb n.data.snapped n.subnodes ∧ ∀ (k : Nat) (s : Node α), n.subnodes[k]? = some (some s) → Shape s := by
  cases h with
  | leaf _ _ _ hS hC hSub => exact ⟨hS, hC, hSub⟩
  | branch _ _ _ hS hC hSub _ _ _ => exact ⟨hS, hC, hSub⟩

theorem Shape.lenS {t : Node α} (h : Shape t) : t.data.snapped.length = t.data.comb.length := h.facts.1.1

/-- nodes reachable from `root` through children and sub-nodes -/
inductive Reach (root : Node α) : Node α → Prop
  | refl : Reach root root
  | child (d : NodeData α) (s : List (Option (Node α))) (ch : List (Nat × Node α)) (p : Nat × Node α) :
      Reach root (.branch d s ch) → p ∈ ch → Reach root p.2
  | sub (n m : Node α) : Reach root n → some m ∈ n.subnodes → Reach root m


end
