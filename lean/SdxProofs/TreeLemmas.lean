import SdxProofs.IntervalLemmas
import SdxProofs.CounterLemmas
import SdxModel.Forest
import Mathlib.Tactic.Ring
import Mathlib.Data.Nat.Bitwise
set_option linter.unusedSectionVars false
/-! Index arithmetic of `tree.py`: child index bits and removal of a dimension. -/

/-- a bit string read most-significant first -/
def bitsValue (bs : List Nat) : Nat := bs.foldl (fun acc b => acc * 2 + b) 0

theorem bitsValue_append (bs : List Nat) (b : Nat) : bitsValue (bs ++ [b]) = bitsValue bs * 2 + b := by
  simp [bitsValue, List.foldl_append]

/-- bit `n-1-j` (counted from the least significant end) of the value is the `j`-th element -/
theorem bitsValue_bit (bs : List Nat) (hb : ∀ b ∈ bs, b < 2) (j : Nat) (hj : j < bs.length) :
    (bitsValue bs / 2 ^ (bs.length - 1 - j)) % 2 = bs[j] := by
  induction bs using List.reverseRecOn generalizing j with
  | nil => simp at hj
  | append_singleton bs b ih =>
    rw [bitsValue_append]
    have hb' : b < 2 := hb b (by simp)
    have hbs : ∀ x ∈ bs, x < 2 := fun x hx => hb x (by simp [hx])
    simp only [List.length_append, List.length_singleton] at hj ⊢
    by_cases hlast : j = bs.length
    · subst hlast
      simp only [Nat.add_sub_cancel, Nat.sub_self, pow_zero, Nat.div_one, List.getElem_concat_length]
      omega
    · have hj' : j < bs.length := by omega
      have e : bs.length + 1 - 1 - j = (bs.length - 1 - j) + 1 := by omega
      rw [e, pow_succ, Nat.mul_comm (2 ^ (bs.length - 1 - j)) 2, ← Nat.div_div_eq_div_mul]
      have : (bitsValue bs * 2 + b) / 2 = bitsValue bs := by omega
      rw [this, ih hbs j hj', List.getElem_append_left hj']

theorem bitsValue_bit' (bs : List Nat) (hb : ∀ b ∈ bs, b < 2) (n : Nat) (hn : bs.length = n) (j : Nat) (hj : j < bs.length) :
    (bitsValue bs / 2 ^ (n - 1 - j)) % 2 = bs[j] := by
  subst hn; exact bitsValue_bit bs hb j hj

theorem removeDim_lt (position index : Nat) : removeDim position index =
    (index / 2 ^ (position + 1)) * 2 ^ position + index % 2 ^ position := rfl

/-- `_remove_dimension_from_index` deletes exactly bit `position`: lower bits stay, higher bits move down by one. -/
theorem removeDim_testBit (position index j : Nat) :
    (removeDim position index).testBit j = index.testBit (if j < position then j else j + 1) := by
  unfold removeDim
  have hlt : index % 2 ^ position < 2 ^ position := Nat.mod_lt _ (by positivity)
  rw [mul_comm, Nat.testBit_two_pow_mul_add _ hlt]
  split_ifs with h
  · rw [Nat.testBit_mod_two_pow]; simp [h]
  · rw [Nat.testBit_div_two_pow]
    congr 1; omega

section
variable {α : Type} [Field α] [LinearOrder α] [IsStrictOrderedRing α] [FloorRing α] [Inhabited α]

theorem halfIndex_lt_two (i : Ival α) (v : α) : i.halfIndex v < 2 := by
  rcases i.halfIndex_cases v with ⟨e, _⟩ | ⟨e, _⟩ <;> omega

theorem childIndex_eq_bitsValue (ivs : List (Ival α)) (vs : List α) :
    childIndex ivs vs = bitsValue ((List.zip ivs vs).map fun p => p.1.halfIndex p.2) := by
  simp only [childIndex, bitsValue, List.foldl_map]

/-- bit `d-1-j` of a child index is the half index of dimension `j` — for any number of dimensions. -/
theorem childIndex_bit (ivs : List (Ival α)) (vs : List α) (hl : ivs.length = vs.length) (j : Nat)
    (hj : j < ivs.length) :
    (childIndex ivs vs / 2 ^ (ivs.length - 1 - j)) % 2 = ivs[j].halfIndex (vs[j]'(hl ▸ hj)) := by
  rw [childIndex_eq_bitsValue]
  have hlen : ((List.zip ivs vs).map fun p => p.1.halfIndex p.2).length = ivs.length := by simp [hl]
  have := bitsValue_bit' ((List.zip ivs vs).map fun p => p.1.halfIndex p.2)
    (by intro b hb; obtain ⟨p, _, rfl⟩ := List.mem_map.mp hb; exact halfIndex_lt_two _ _) ivs.length hlen j (by rw [hlen]; exact hj)
  rw [this]; simp

end
