import SdxModel.Convert
import SdxProofs.PrefixLemma
/-!
# The value map of a string column (`StringConvertor.__init__`)

`sorted(set(values))`: strictly increasing by code points, holding exactly the non-null strings of the column; hence the
encoding (index in the value map) and the decoding (`value_map[index]`) are inverse to each other, and the hypothesis of
the mask-prefix theorem (`SortedStrings`) holds of every fitted convertor. Core order on `String` / `List Char` only.
-/

theorem mem_insertDedup (x y : String) : ∀ l : List String, y ∈ insertDedup x l ↔ y = x ∨ y ∈ l
  | [] => by simp [insertDedup]
  | z :: zs => by
    unfold insertDedup
    split
    · simp
    · split
      · next h => simp [eq_of_beq h]
      · simp [mem_insertDedup x y zs, or_left_comm]

theorem insertDedup_sorted (x : String) : ∀ l : List String, l.Pairwise (· < ·) → (insertDedup x l).Pairwise (· < ·) := by
  intro l
  induction l with
  | nil => intro _; simp [insertDedup]
  | cons z zs ih =>
    intro h
    rw [List.pairwise_cons] at h
    unfold insertDedup
    by_cases h1 : x < z
    · rw [if_pos h1, List.pairwise_cons]
      refine ⟨?_, List.pairwise_cons.mpr h⟩
      intro y hy
      rcases List.mem_cons.mp hy with rfl | hy
      · exact h1
      · exact String.lt_trans h1 (h.1 y hy)
    by_cases h2 : (x == z) = true
    · rw [if_neg h1, if_pos h2]; exact List.pairwise_cons.mpr h
    · rw [if_neg h1, if_neg h2]
      have hzx : z < x := Std.lt_of_le_of_ne (String.not_lt.mp h1) (Ne.symm (by simpa using h2))
      rw [List.pairwise_cons]
      refine ⟨?_, ih h.2⟩
      intro y hy
      rcases (mem_insertDedup x y zs).mp hy with rfl | hy
      · exact hzx
      · exact h.1 y hy

theorem foldl_insertDedup_spec (vals : List String) : ∀ acc : List String, acc.Pairwise (· < ·) →
    (vals.foldl (fun acc x => insertDedup x acc) acc).Pairwise (· < ·) ∧
    ∀ y, y ∈ vals.foldl (fun acc x => insertDedup x acc) acc ↔ y ∈ vals ∨ y ∈ acc := by
  induction vals with
  | nil => intro acc h; simp [h]
  | cons v vs ih =>
    intro acc h
    obtain ⟨h1, h2⟩ := ih (insertDedup v acc) (insertDedup_sorted v acc h)
    refine ⟨h1, fun y => ?_⟩
    rw [List.foldl_cons, h2, mem_insertDedup, List.mem_cons, or_assoc, or_left_comm]

/-- the value map is strictly increasing by code points … -/
theorem valueMapOf_strict (v : List (Option String)) : (valueMapOf v).Pairwise (· < ·) :=
  (foldl_insertDedup_spec _ [] List.Pairwise.nil).1

/-- … and holds exactly the non-null strings of the column -/
theorem mem_valueMapOf (v : List (Option String)) (x : String) : x ∈ valueMapOf v ↔ some x ∈ v := by
  unfold valueMapOf
  rw [(foldl_insertDedup_spec _ [] List.Pairwise.nil).2]
  simp [List.mem_filterMap]

/-- the fitted value map satisfies the hypothesis of the mask-prefix theorem -/
theorem valueMapOf_sorted (v : List (Option String)) : SortedStrings (valueMapOf v) := by
  unfold SortedStrings
  rw [List.pairwise_map]
  exact (valueMapOf_strict v).imp (fun {a b} h => List.le_of_lt (String.lt_iff.mp h))

/-- decoding the code of a string of the column gives the string back -/
theorem valueMapOf_roundtrip (v : List (Option String)) (x : String) (hx : some x ∈ v) :
    (valueMapOf v)[(valueMapOf v).idxOf x]? = some x := by
  rw [List.getElem?_eq_getElem (List.idxOf_lt_length_of_mem ((mem_valueMapOf v x).mpr hx)), List.getElem_idxOf]

/-- different strings get different codes -/
theorem valueMapOf_injective (v : List (Option String)) (x y : String) (hx : some x ∈ v) (hy : some y ∈ v)
    (h : (valueMapOf v).idxOf x = (valueMapOf v).idxOf y) : x = y := by
  have h2 := valueMapOf_roundtrip v y hy
  rw [← h, valueMapOf_roundtrip v x hx] at h2
  exact Option.some.inj h2
